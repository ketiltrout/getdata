/-
  Property C09 — directive scope, inclusion, affixes, namespaces and aliases.

  dirfile-format(5): "A directive with fragment scope only applies to the
  fragment in which it is present, plus any sub-fragments indicated by the
  /INCLUDE directive, but only if those sub-fragments don't have their own
  corresponding directive. [...] If a directive with fragment scope appears
  more than once in a fragment, only the last such directive is honoured, with
  the exception that the effect of a directive is not propagated to
  sub-fragments if the directive line appears after the sub-fragment is
  included."

  The interpreter `Impl.items` is shaped like parse.c / include.c: one mutable
  record per fragment, a parser state threaded through the lines, includes
  entered recursively.  Two of its outputs have a declarative reading in `Spec`
  and are proved equal to it for every include tree below the recursion limit:
  the four scoped settings of every fragment (`scoped_directive_spec`) and the
  choice of reference field when no /REFERENCE occurs
  (`reference_defaults_to_first_raw`, with `Spec.refs`).  The recursion limit,
  /VERSION, namespaces, affixes and /REFERENCE are stated directly about the
  interpreter; alias resolution (`Alias.Impl.update`) is proved sound for the
  relation `Alias.Reaches`, of which `Alias.Spec.chase` is the executable form.
-/
import GdModel.Scope.Lemmas
import GdModel.Scope.AliasLemmas
namespace GdModel.Props.C09
open GdModel.Scope GdModel.Scope.Spec

theorem run_attrs : Impl.Run
    (fun _ i st st' => st'.err = false → st'.cur.attrs = after st.cur.attrs [i] ∧
      st'.done.map (·.attrs) = st.done.map (·.attrs) ++ subsItem st.cur.attrs [] i)
    (fun _ its st st' => st'.err = false → st'.cur.attrs = after st.cur.attrs its.toList ∧
      st'.done.map (·.attrs) = st.done.map (·.attrs) ++ subs st.cur.attrs [] its) :=
  Impl.run_induct
    (line := fun hl _ => by
      rw [after_cons, hl.attrs, hl.done, subsItem_line hl.depth, List.append_nil]
      exact ⟨rfl, rfl⟩)
    (limit := fun _ h => nomatch h)
    (inc := fun _ hQ h => by
      obtain ⟨h1, h2⟩ := hQ h
      rw [St.leave_cur, St.leave_done, List.map_append, List.map_cons, h1, h2, St.enter_attrs, St.enter_done]
      exact ⟨rfl, rfl⟩)
    (nil := fun _ => ⟨rfl, (List.append_nil _).symm⟩)
    (stop := fun _ he h => nomatch he.symm.trans h)
    (cons := fun {_ i r st _ _} hP he hQ h => by
      obtain ⟨a1, a2⟩ := hP he
      obtain ⟨b1, b2⟩ := hQ h
      constructor
      · rw [b1, a1, ← after_append]; rfl
      · rw [b2, a2, a1, subs, List.nil_append, subs_pre st.cur.attrs [i] r, List.append_assoc])

theorem item_attrs (i : Item) (depth : Nat) (st : St)
    (h : (Impl.item depth i st).err = false) :
    (Impl.item depth i st).cur.attrs = after st.cur.attrs [i] ∧
    (Impl.item depth i st).done.map (·.attrs) =
      st.done.map (·.attrs) ++ subsItem st.cur.attrs [] i :=
  run_attrs.item depth i st h

/-- **Scoped directives.**  For every include tree that parses (no recursion
    error), the /ENCODING, /ENDIAN, /FRAMEOFFSET and /PROTECT settings of all
    fragments, in fragment-index order, are exactly the declarative ones:
    own last directive, else what the parent had in effect at the /INCLUDE line. -/
theorem scoped_directive_spec (perm ped : Bool) (root : Attrs) (its : Items)
    (h : (parse perm ped root its).err = false) :
    (parse perm ped root its).frags.map (·.attrs) = Spec.frags root its := by
  obtain ⟨a, b⟩ := run_attrs.items 0 its (initSt perm ped root) h
  exact congr (congrArg List.cons a) b

/-- a directive placed after an /INCLUDE line does not reach that sub-fragment,
    one placed before it does (the two-line instances of the rule) -/
theorem directive_after_include_not_inherited (a : Attr) (v : Nat) (ns px sx : Name) (body : Items)
    (root : Attrs) :
    Spec.frags root (.cons (.inc ns px sx body) (.cons (.set a v) .nil)) =
      root.set a v :: Spec.frags root body := by
  simp [Spec.frags, subs, subsItem, Items.toList, after_eq_foldl, Attrs.step]

theorem directive_before_include_inherited (a : Attr) (v : Nat) (ns px sx : Name) (body : Items)
    (root : Attrs) :
    Spec.frags root (.cons (.set a v) (.cons (.inc ns px sx body) .nil)) =
      root.set a v :: Spec.frags (root.set a v) body := by
  simp [Spec.frags, subs, subsItem, Items.toList, after_eq_foldl, Attrs.step]

theorem item_err_of_deep (i : Item) (depth : Nat) (st : St) (hs : st.err = false)
    (h : depth + i.depth < maxRecurse) : (Impl.item depth i st).err = false :=
  Bool.eq_false_iff.2 fun he =>
    ((run_err.item depth i st (Nat.lt_of_le_of_lt (Nat.le_add_right ..) h)).1 he).elim
      (Bool.eq_false_iff.1 hs) (Nat.not_le.2 h)

/-- include trees nested less deeply than GD_MAX_RECURSE_LEVEL always parse -/
theorem shallow_tree_parses (perm ped : Bool) (root : Attrs) (its : Items)
    (h : its.depth < maxRecurse) : (parse perm ped root its).err = false :=
  Bool.eq_false_iff.2 fun he =>
    ((run_err.items 0 its (initSt perm ped root) (by decide)).1 he).elim nofun
      (Nat.not_le.2 (by rwa [Nat.zero_add]))

/-- /VERSION propagates upward out of an included fragment exactly when neither
    the version the fragment ended with nor the (pedantic) version of the parent
    is 9 or later -/
theorem version_propagates_iff (old new : P) :
    (P.popVersion old new).standards =
      if (old.standards ≥ 9 ∧ old.pedantic = true) ∨ new.standards ≥ 9 then old.standards
      else new.standards := by
  unfold P.popVersion
  simp only [Bool.or_eq_true, Bool.and_eq_true, decide_eq_true_eq]
  split <;> rfl

/-- a /VERSION line acts on the lines after it in the same fragment -/
theorem version_acts_downward (depth v : Nat) (r : Items) (st : St) (hs : st.err = false) :
    Impl.items depth (.cons (.version v) r) st = Impl.items depth r { st with p := st.p.setVersion v } := by
  rw [items_cons]
  exact if_neg (Bool.eq_false_iff.1 hs)

/-- INDEX is always in the null namespace, whatever the root and current namespace -/
theorem index_null_namespace (fragNs curNs : Name) :
    buildCode fragNs curNs [] [] indexName = indexName := rfl

/-- affixes nest with the deepest inclusion innermost; the root namespace of a
    sub-fragment is relative to its parent's root namespace -/
theorem child_affixes (st : St) (ns px sx : Name) :
    (childFrag st ns px sx).px = st.cur.px ++ px ∧
    (childFrag st ns px sx).sx = sx ++ st.cur.sx ∧
    (childFrag st ns px sx).ns = join st.cur.ns (if ns ≠ [] then ns else st.p.ns) ∧
    (childFrag st ns px sx).attrs = st.cur.attrs ∧
    (childFrag st ns px sx).parent = st.cur.idx :=
  ⟨rfl, rfl, rfl, rfl, rfl⟩

/-- /NAMESPACE never propagates upward: after an /INCLUDE the parent's current
    namespace is what it was before -/
theorem namespace_not_propagated (depth : Nat) (ns px sx : Name) (body : Items) (st : St) :
    (Impl.item depth (.inc ns px sx body) st).p.ns = st.p.ns := by
  rw [item_inc]
  split <;> rfl

theorem run_firstRaw (n : Name) : Impl.Run
    (fun _ _ st st' => st.firstRaw = some n → st'.firstRaw = some n)
    (fun _ _ st st' => st.firstRaw = some n → st'.firstRaw = some n) :=
  Impl.run_induct (line := fun hl => hl.firstRaw n) (limit := fun _ h => h) (inc := fun _ hQ h => hQ h)
    (nil := fun h => h) (stop := fun hP _ h => hP h) (cons := fun hP _ hQ h => hQ (hP h))

theorem item_firstRaw_sticky (i : Item) (depth : Nat) (st : St) (n : Name)
    (h : st.firstRaw = some n) : (Impl.item depth i st).firstRaw = some n :=
  (run_firstRaw n).item depth i st h

theorem items_firstRaw_sticky (its : Items) (depth : Nat) (st : St) (n : Name)
    (h : st.firstRaw = some n) : (Impl.items depth its st).firstRaw = some n :=
  (run_firstRaw n).items depth its st h

theorem run_ref : Impl.Run (fun _ i st st' => refsItem i = 0 → st'.ref = st.ref)
    (fun _ its st st' => refs its = 0 → st'.ref = st.ref) :=
  Impl.run_induct
    (line := fun hl => hl.ref)
    (limit := fun _ _ => rfl)
    (inc := fun _ hQ h => by rw [St.leave_ref, hQ h, St.enter_ref])
    (nil := fun _ => rfl)
    (stop := fun hP _ h => hP (Nat.add_eq_zero_iff.1 h).1)
    (cons := fun hP _ hQ h =>
      have ⟨hi, hr⟩ := Nat.add_eq_zero_iff.1 h
      (hQ hr).trans (hP hi))

theorem item_ref_none (i : Item) (depth : Nat) (st : St) (h : refsItem i = 0) :
    (Impl.item depth i st).ref = st.ref :=
  run_ref.item depth i st h

/-- without any /REFERENCE directive anywhere in the tree, the reference field
    is the first RAW field in depth-first textual order -/
theorem reference_defaults_to_first_raw (perm ped : Bool) (root : Attrs) (its : Items)
    (h : refs its = 0) :
    (parse perm ped root its).reference = (Impl.items 0 its (initSt perm ped root)).firstRaw := by
  unfold parse
  simp only [run_ref.items 0 its _ h, initSt]

/-- a later top-level /REFERENCE replaces whatever was chosen before (last one wins) -/
theorem last_reference_wins (depth : Nat) (c : Name) (st : St) :
    (Impl.item depth (.reference c) st).ref =
      some (buildCode st.cur.ns st.p.ns st.cur.px st.cur.sx c) := rfl

/-- a /REFERENCE inside an included fragment replaces the parent's earlier choice -/
theorem sub_reference_wins (depth : Nat) (ns px sx : Name) (body : Items) (st : St) (r : Name)
    (hd : ¬ depth + 1 ≥ maxRecurse)
    (h : (Impl.items (depth + 1) body
        { st with p := { st.p with ns := if (decide (ns ≠ []) || decide (st.p.ns ≠ [])) then [] else st.p.ns },
                  cur := childFrag st ns px sx, done := [], nfrag := st.nfrag + 1, ref := none }).ref = some r) :
    (Impl.item depth (.inc ns px sx body) st).ref = some r := by
  change (Impl.items (depth + 1) body (st.enter ns px sx)).ref = some r at h
  rw [item_inc, if_neg hd, St.leave_ref, h]

open GdModel.Scope.Alias in
/-- `Reaches` is a function: an alias has at most one ultimate target -/
theorem reaches_unique (tab : Table) (i j k : Nat) (h1 : Reaches tab i j) (h2 : Reaches tab i k) : j = k := by
  induction h1 generalizing k with
  | base j hj hr =>
    cases h2 with
    | base => rfl
    | step _ _ _ ha => cases hr.symm.trans ha
  | step i m j ha hn hr ih =>
    cases h2 with
    | base _ _ hr2 => cases hr2.symm.trans ha
    | step _ _ _ _ hn' hr' =>
      cases hn.symm.trans hn'
      exact ih k hr'

open GdModel.Scope.Alias in
/-- what the specification function finds is the ultimate target -/
theorem chase_sound (tab : Table) (fuel i j : Nat) (h : Spec.chase tab fuel i = some j) : Reaches tab i j := by
  fun_induction Spec.chase tab fuel i
  case case2 hna hlt =>   -- `i` is a real field of the table
    cases h; exact .base _ hlt (by simpa using hna)
  case case5 ha m hn ih =>   -- `i` is an alias whose target `m` exists
    exact .step _ m j (by simpa using ha) hn (ih h)
  all_goals cases h   -- out of fuel, outside the table, or dangling: nothing found

open GdModel.Scope.Alias in
/-- and it finds it, given fuel for the length of the chain -/
theorem reaches_chase (tab : Table) (i j : Nat) (h : Reaches tab i j) :
    ∃ fuel, ∀ f ≥ fuel, Spec.chase tab f i = some j := by
  induction h with
  | base j hj hr =>
    refine ⟨1, fun f hf => ?_⟩
    obtain ⟨g, rfl⟩ := Nat.exists_eq_add_of_le' hf
    simp only [Spec.chase, hr, hj, Bool.not_false, if_true]
  | step i m j ha hn hr ih =>
    obtain ⟨fuel, hf⟩ := ih
    refine ⟨fuel + 1, fun f hf' => ?_⟩
    obtain ⟨g, rfl⟩ := Nat.exists_eq_add_of_le' hf'
    simp only [Spec.chase, ha, Bool.not_true, Bool.false_eq_true, if_false, hn]
    exact hf _ (Nat.le_add_left ..)

open GdModel.Scope.Alias in
/-- **The alias resolver never records a wrong target.**  For every table —
    any order, chains, loops, dangling entries — an ultimate target stored by the
    C-shaped `_GD_UpdateAliases` model is the real field its chain leads to. -/
theorem resolver_sound (tab : Table) (i j : Nat)
    (h : getO (Impl.update tab).ult i = some j) : Reaches tab i j := by
  -- every step of `Impl.update` is an `if` between resolving the entry and doing nothing
  refine resolveAll_sound tab (fun _ _ => ?_) _ _ (clear_sound tab _) i j h
  split
  · exact .inl rfl
  · exact .inr rfl

open GdModel.Scope.Alias in
/-- hence it agrees with the specification function wherever it records a target -/
theorem resolver_agrees_with_chase (tab : Table) (i j : Nat)
    (h : getO (Impl.update tab).ult i = some j) : ∃ fuel, ∀ f ≥ fuel, Spec.chase tab f i = some j :=
  reaches_chase tab i j (resolver_sound tab i j h)

/-- regression witness for known finding 5.60 (repaired in /repo by 52b823c): on a -> b -> c -> b, a loop
    that does not pass through the alias being resolved, the walk ends with no target, as the
    specification says -/
example :
    let tab : GdModel.Scope.Alias.Table :=
      [⟨[97], some [98]⟩, ⟨[98], some [99]⟩, ⟨[99], some [98]⟩, ⟨[120], none⟩, ⟨[121], some [120]⟩]
    (GdModel.Scope.Alias.Impl.update tab).ult = [none, none, none, none, some 3] ∧
    (List.range 5).map (GdModel.Scope.Alias.Spec.ultimate tab) = [none, none, none, none, some 3] := by
  decide

/-- non-vacuity: a three-level tree with directives before and after includes -/
def exTree : Items :=
  .cons (.set .endian 1) <|
  .cons (.inc [] [65] [] (.cons (.set .offset 5) (.cons (.inc [] [] [66] (.cons (.raw [120] 0) .nil))
                           (.cons (.set .enc 2) .nil)))) <|
  .cons (.set .endian 0) <|
  .cons (.inc [110] [] [] (.cons (.raw [121] 0) .nil)) .nil

example : (parse false false ⟨0, 0, 0, 0⟩ exTree).err = false := by decide
example : (parse false false ⟨0, 0, 0, 0⟩ exTree).frags.map (·.attrs) =
    [⟨0, 0, 0, 0⟩, ⟨2, 1, 5, 0⟩, ⟨0, 1, 5, 0⟩, ⟨0, 0, 0, 0⟩] := by decide
example : (parse false false ⟨0, 0, 0, 0⟩ exTree).names = [([65, 120, 66], 2), ([110, 46, 121], 3)] := by decide

end GdModel.Props.C09
