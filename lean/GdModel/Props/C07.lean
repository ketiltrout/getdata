/-
  Property C07 — metadata survive a flush and reopen unchanged.

  The part of the round trip that is pure text is proved here: the token
  writer of gd_metaflush (`_GD_StringEscapeise`, modelled in Token.Escape)
  followed by the tokeniser of the Standards in the Version ≥ 6 syntax
  (`Token.Spec.tokenise true`) returns the original bytes, for every non-empty
  string of bytes 1…255; the empty string only alone on a line.  Nothing proved
  ties `Spec.tokenise true` to `_GD_Tokenise`: C08 proves the two equal only for
  Versions ≤ 5 and compares them for Versions ≥ 6 by exhaustive runs.

  * `body_esc1`        one escaped byte is read back as that byte, from any
                       tokeniser state inside an unquoted token;
  * `body_escape`      lifted over a whole string by induction;
  * `token_roundtrip`  a written token followed by a newline tokenises to
                       exactly that token, no error (strings "byte-for-byte,
                       any bytes except NUL");
  * `tokens_roundtrip` a line of several written tokens, each followed by a space,
                       tokenises to exactly those tokens;
  * `empty_roundtrip`  the empty string, written `""`, alone on a line;
  * `WriteCode.scalar_code_reads_back_as_code`  a scalar field code that
                       `_GD_WriteFieldCode` writes is never read back as a number.
-/
import GdModel.Token.Escape
import GdModel.Generated.WriteCode
namespace GdModel.Props.C07
open GdModel.Token GdModel.Token.Spec

theorem hexDigit_spec : ∀ n < 16, isHex (hexDigitUpper n) = true ∧ hexVal (hexDigitUpper n) = n := by decide

/-- `\\`, `\#`, `\"`, `\ ` decode to the byte itself -/
theorem escape_literal (b : Nat) (h1 : b = 92 ∨ b = 35 ∨ b = 34 ∨ b = 32) (rest : List Nat) :
    Spec.escape (b :: rest) = .ok (some [b], rest) := by
  rcases h1 with h | h | h | h <;> subst h <;>
    simp [Spec.escape, Spec.escape.decode, simpleEscape, isOctal]

/-- `\xHH`: two hex digits decode to the byte they denote, unless that is NUL -/
theorem escape_hex {d1 d2 : Nat} (h1 : isHex d1 = true) (h2 : isHex d2 = true)
    (h0 : hexVal d1 * 16 + hexVal d2 ≠ 0) (rest : List Nat) :
    Spec.escape (120 :: d1 :: d2 :: rest) = .ok (some [(hexVal d1 * 16 + hexVal d2) % 256], rest) := by
  simp [Spec.escape, Spec.escape.decode, simpleEscape, isOctal, takeUpTo, h1, h2, hexValue, Spec.escape.num]
  -- left: `escape.num`'s test that the value is not 0, which is `h0` with the sum taken apart
  omega

/-- a byte that the writer leaves as it is: neither whitespace nor one of `\ # "` -/
theorem plain_byte {b : Nat} (h1 : ¬ (b = 92 ∨ b = 35 ∨ b = 34 ∨ b = 32)) (h2 : ¬ b < 32) :
    isWs b = false ∧ b ≠ 92 ∧ b ≠ 34 ∧ b ≠ 35 := by
  unfold isWs
  simp only [Bool.or_eq_false_iff, beq_eq_false_iff_ne]
  omega

theorem body_backslash {l r bs : List Nat} (h : Spec.escape l = .ok (some bs, r)) (fuel : Nat) (q : Bool)
    (acc : List Nat) : body true (fuel + 1) q acc (92 :: l) = body true fuel q (bs.reverse ++ acc) r := by
  rw [body, if_pos ⟨rfl, rfl⟩, h]

theorem body_esc1 (b : Nat) (hb0 : 0 < b) (hb : b < 256) (fuel : Nat) (acc rest : List Nat) :
    body true (fuel + 1) false acc (esc1 b ++ rest) = body true fuel false (b :: acc) rest := by
  unfold esc1
  split
  · next h1 => exact body_backslash (escape_literal b h1 rest) ..
  split
  · obtain ⟨hd1, hv1⟩ := hexDigit_spec (b / 16) (by omega)
    obtain ⟨hd2, hv2⟩ := hexDigit_spec (b % 16) (by omega)
    have := escape_hex hd1 hd2 (by omega) rest
    rw [hv1, hv2, Nat.div_add_mod', Nat.mod_eq_of_lt hb] at this
    exact body_backslash this ..
  · next h1 h2 =>
    obtain ⟨hws, h92, h34, h35⟩ := plain_byte h1 h2
    show body true (fuel + 1) false acc (b :: rest) = _
    rw [body, if_neg (h92 ·.1), if_neg (h34 ·.1), if_neg (by simp [hws]), if_neg (h35 ·.2)]

theorem body_escape (s : List Nat) (hs : ∀ b ∈ s, 0 < b ∧ b < 256) (fuel : Nat) (acc rest : List Nat) :
    body true (fuel + s.length) false acc (s.flatMap esc1 ++ rest) = body true fuel false (s.reverse ++ acc) rest := by
  induction s generalizing acc with
  | nil => simp
  | cons b t ih =>
    have hb := hs b List.mem_cons_self
    rw [List.flatMap_cons, List.append_assoc, List.length_cons, ← Nat.add_assoc, body_esc1 b hb.1 hb.2,
      ih (fun c hc => hs c (List.mem_cons_of_mem _ hc))]
    simp

theorem esc1_head (b : Nat) : ∃ c r, esc1 b = c :: r ∧ isWs c = false ∧ c ≠ 35 := by
  unfold esc1
  split
  · exact ⟨92, _, rfl, rfl, by decide⟩
  split
  · exact ⟨92, _, rfl, rfl, by decide⟩
  · next h1 h2 => exact ⟨b, [], rfl, (plain_byte h1 h2).1, (plain_byte h1 h2).2.2.2⟩

theorem flatMap_esc1_length (s : List Nat) : s.length ≤ (s.flatMap esc1).length := by
  induction s with
  | nil => exact Nat.le_refl _
  | cons b t ih =>
    obtain ⟨c, r, h, -⟩ := esc1_head b
    rw [List.flatMap_cons, h, List.length_append, List.length_cons, List.length_cons]
    omega

theorem body_token (s : List Nat) (hne : s ≠ []) (hs : ∀ b ∈ s, 0 < b ∧ b < 256)
    (w : Nat) (hw : isWs w = true) (rest : List Nat) (fuel : Nat) (hf : s.length + 1 ≤ fuel) :
    body true fuel false [] (escapeStr s ++ w :: rest) = .ok (s, rest) := by
  unfold escapeStr
  rw [if_neg hne]
  obtain ⟨k, rfl⟩ : ∃ k, fuel = (k + 1) + s.length := ⟨fuel - s.length - 1, by omega⟩
  rw [body_escape s hs (k + 1) [] (w :: rest), body]
  -- `w` is whitespace: neither a backslash nor a quotation mark
  rw [if_neg (by rintro ⟨rfl, -⟩; cases hw), if_neg (by rintro ⟨rfl, -⟩; cases hw), if_pos ⟨rfl, hw⟩,
    List.append_nil, List.reverse_reverse]

theorem tokens_token (s : List Nat) (hne : s ≠ []) (hs : ∀ b ∈ s, 0 < b ∧ b < 256)
    (w : Nat) (hw : isWs w = true) (rest : List Nat) (fuel : Nat) (acc : List (List Nat)) :
    tokens true (fuel + 1) (escapeStr s ++ w :: rest) acc = tokens true fuel rest (s :: acc) := by
  obtain ⟨c, r, hcr, hcws, hc35⟩ : ∃ c r, escapeStr s ++ w :: rest = c :: r ∧ isWs c = false ∧ c ≠ 35 := by
    obtain ⟨b, t, rfl⟩ := List.exists_cons_of_ne_nil hne
    obtain ⟨c, r, h, hc⟩ := esc1_head b
    exact ⟨c, _, by rw [escapeStr, if_neg hne, List.flatMap_cons, h]; rfl, hc⟩
  have hlen : s.length + 1 ≤ r.length + 2 := by
    have := flatMap_esc1_length s
    have := congrArg List.length hcr
    simp only [escapeStr, if_neg hne, List.length_append, List.length_cons] at this
    omega
  rw [hcr, tokens, if_neg (by simp [hcws]), if_neg hc35, ← hcr, body_token s hne hs w hw rest _ hlen]

theorem token_roundtrip (s : List Nat) (hne : s ≠ []) (hs : ∀ b ∈ s, 0 < b ∧ b < 256) :
    tokenise true (escapeStr s ++ [10]) = ⟨[s], none⟩ := by
  rw [tokenise, tokens_token s hne hs 10 rfl]
  cases (escapeStr s ++ [10]).length <;> rfl

theorem tokens_line (toks : List (List Nat))
    (h : ∀ t ∈ toks, t ≠ [] ∧ ∀ b ∈ t, 0 < b ∧ b < 256) :
    ∀ (fuel : Nat) (acc : List (List Nat)),
      (toks.flatMap (fun t => escapeStr t ++ [32]) ++ [10]).length + 1 ≤ fuel →
      tokens true fuel (toks.flatMap (fun t => escapeStr t ++ [32]) ++ [10]) acc = ⟨acc.reverse ++ toks, none⟩ := by
  induction toks with
  | nil =>
    intro fuel acc _
    rw [List.flatMap_nil, List.nil_append, List.append_nil]
    rcases fuel with _ | _ | _ <;> rfl
  | cons t ts ih =>
    intro fuel acc hf
    obtain ⟨hne, hs⟩ := h t List.mem_cons_self
    rw [List.flatMap_cons, List.append_assoc, List.append_assoc, List.singleton_append] at hf ⊢
    obtain ⟨k, rfl⟩ : ∃ k, fuel = k + 1 := ⟨fuel - 1, by simp at hf; omega⟩
    rw [tokens_token t hne hs 32 rfl,
      ih (fun t ht => h t (List.mem_cons_of_mem _ ht)) k (t :: acc)
        (by simp only [List.length_append, List.length_cons] at hf ⊢; omega)]
    simp

theorem tokens_roundtrip (toks : List (List Nat))
    (h : ∀ t ∈ toks, t ≠ [] ∧ ∀ b ∈ t, 0 < b ∧ b < 256) :
    tokenise true (toks.flatMap (fun t => escapeStr t ++ [32]) ++ [10]) = ⟨toks, none⟩ := by
  unfold tokenise
  rw [tokens_line toks h _ [] (by omega)]
  simp

theorem empty_roundtrip : tokenise true (escapeStr [] ++ [10]) = ⟨[[]], none⟩ := by decide

/-! ### non-vacuity: a nasty string -/
example : tokenise true (escapeStr [32, 35, 34, 92, 1, 10, 9, 200, 65, 120] ++ [10])
    = ⟨[[32, 35, 34, 92, 1, 10, 9, 200, 65, 120]], none⟩ := by decide
example : escapeStr [65, 32, 1] = [65, 92, 32, 92, 120, 48, 49] := by decide
example : tokenise true ([[108], [32, 34], [200, 7]].flatMap (fun t => escapeStr t ++ [32]) ++ [10])
    = ⟨[[108], [32, 34], [200, 7]], none⟩ := by decide

/-! ### scalar field codes that look like numbers (`_GD_WriteFieldCode`, facts extracted by X6) -/

namespace WriteCode
open GdModel.Generated

/-- what the format-file parser makes of a scalar parameter token (`_GD_SetScalar`):
    a number is a literal, anything else a field code -/
inductive Parsed where
  | literal
  | code (c : List Nat)
  deriving DecidableEq

def parseScalar (isNum : List Nat → Bool) (tok : List Nat) : Parsed :=
  if isNum tok then .literal else .code tok

def suffixBytes : List Nat := [60, 48, 62]   -- "<0>"

/-- `_GD_WriteFieldCode` for a scalar code without element index, as the extracted
    facts describe it: the stripped code is written; `<0>` is appended when the
    variable named `tested` looks like a number -/
def writeScalar (f : WriteCodeFacts) (strip : List Nat → List Nat) (isNum : List Nat → Bool) (code : List Nat) : List Nat :=
  let s := strip code
  let t := if f.tested = f.stripped then s else code
  if f.guardScalar && f.guardIndex && isNum t then s ++ suffixBytes else s

/-- the extracted facts, checked against the current source; `scalar_code_reads_back_as_code` uses
    `tested = stripped` and the two guards -/
theorem writecode_facts_ok :
    writeCodeFacts.written = writeCodeFacts.stripped ∧ writeCodeFacts.tested = writeCodeFacts.stripped ∧
    writeCodeFacts.guardScalar = true ∧ writeCodeFacts.guardIndex = true ∧ writeCodeFacts.suffix = "<0>" := by
  decide

/-- **A scalar field code is never read back as a number**, whatever the
    fragment's affixes strip from it: for every stripping function and every
    notion of "looks like a number" under which nothing ending in `<0>` is a
    number (true of `_GD_TokToNum`: `>` cannot end a literal). -/
theorem scalar_code_reads_back_as_code (strip : List Nat → List Nat) (isNum : List Nat → Bool)
    (hsuf : ∀ s, isNum (s ++ suffixBytes) = false) (code : List Nat) :
    parseScalar isNum (writeScalar writeCodeFacts strip isNum code) ≠ .literal := by
  have hf := writecode_facts_ok
  unfold writeScalar parseScalar
  simp only [hf.2.1, hf.2.2.1, hf.2.2.2.1, if_true, Bool.true_and]
  by_cases h : isNum (strip code) = true
  · simp [h, hsuf]
  · simp [h]

/-- the mistake of testing the unstripped code: with prefix "A" the code "A10"
    does not look like a number, what is written ("10") does -/
example :
    let bad : WriteCodeFacts := { writeCodeFacts with tested := "code" }
    parseScalar (fun t => t.all (fun c => 48 ≤ c ∧ c ≤ 57) && !t.isEmpty)
      (writeScalar bad (fun c => c.drop 1) (fun t => t.all (fun c => 48 ≤ c ∧ c ≤ 57) && !t.isEmpty) [65, 49, 48]) = .literal := by
  decide

end WriteCode

end GdModel.Props.C07
