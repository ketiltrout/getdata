/-
  Property C05 — no file content can make the library misbehave.

  What a Lean model can carry of this property are the index, length and
  recursion obligations the C code relies on; they are proved here for all
  inputs.  Memory safety of the C itself is sampled by the sanitised
  correspondence run (checks/c05.py) — see the level note in MANIFEST.json.

  * `tokenise_output_fits`                the tokeniser's output fits its buffer;
  * `linterp_index_in_range`              the LINTERP table search stays inside the table;
  * `circular_ends_in_recurse_level`      circular field definitions end in GD_E_RECURSE_LEVEL
                                          (from `eval_unending_chain_fails`);
  * `deep_include_ends_in_recurse_level`  so do /INCLUDE trees nested too deep;
  * `sie_read_count_bound`, `sie_cursor_fits_int64`  the SIE record cursor on untrusted indices.
-/
import GdModel.Hostile.Model
import GdModel.Hostile.Sie
import GdModel.Scope.Lemmas
import GdModel.Token.Fits
namespace GdModel.Props.C05
open GdModel.Hostile

/-- `_GD_Tokenise` writes its tokens, NUL-separated, into `strdup(instring)`:
    for EVERY byte string they fit (GdModel.Token.Fits: bytes written + bytes an
    unfinished escape has consumed ≤ bytes read, after every step). -/
theorem tokenise_output_fits (v6 : Bool) (want : Nat) (input : List Nat) :
    GdModel.Token.Fits.sumLen (GdModel.Token.Impl.tokenise v6 want input).tokens ≤ input.length + 1 :=
  GdModel.Token.Fits.tokenise_output_fits v6 want input

/-- the bound is attained: every byte of "a b" is needed, plus the final NUL -/
example : GdModel.Token.Fits.sumLen (GdModel.Token.Impl.tokenise true 32 [97, 32, 98]).tokens = 4 := by decide

theorem incLoop_le (gt : Nat → Bool) (n fuel idx : Nat) (h : idx ≤ n - 2) :
    incLoop gt n fuel idx ≤ n - 2 := by
  induction fuel generalizing idx with
  | zero => simpa [incLoop] using h
  | succ f ih =>
    simp only [incLoop]
    split
    · rename_i hc; exact ih (idx + 1) (by omega)
    · exact h

theorem decLoop_le (lt : Nat → Bool) (fuel idx : Nat) : decLoop lt fuel idx ≤ idx := by
  induction fuel generalizing idx with
  | zero => simp [decLoop]
  | succ f ih =>
    simp only [decLoop]
    split
    · have := ih (idx - 1); omega
    · exact Nat.le_refl _

/-- the guess carried from one sample to the next stays a valid starting guess -/
theorem linterp_index_invariant (gt lt : Nat → Bool) (n idx : Nat) (hi : idx ≤ n - 2) :
    getIndex gt lt n idx ≤ n - 2 := by
  unfold getIndex
  exact Nat.le_trans (decLoop_le lt n _) (incLoop_le gt n n idx hi)

/-- For a table of at least two lines and a starting guess inside it, whatever
    the comparisons answer (NaN entries, unsorted or constant tables), the index
    returned satisfies `idx + 1 < n`: both `lut[idx]` and `lut[idx+1]`, which the
    interpolation reads, are inside the table. -/
theorem linterp_index_in_range (gt lt : Nat → Bool) (n idx : Nat) (hn : 2 ≤ n) (hi : idx ≤ n - 2) :
    getIndex gt lt n idx + 1 < n := by
  have := linterp_index_invariant gt lt n idx hi
  omega

/-- the smallest table: with two lines the answer is 0 whatever the comparisons
    say.  With fewer, `n - 2` wraps in the C and the search is NOT safe: the reader
    must reject such tables, which `_GD_ReadLinterpFile` does (GD_E_LUT). -/
example : getIndex (fun _ => true) (fun _ => false) 2 0 = 0 := by decide

/-- `eval` folds over the inputs keeping the first result that is not `ok` -/
theorem foldl_ok_iff (f : Nat → Res) (ins : List Nat) (r : Res) :
    ins.foldl (fun r j => if r = .ok then f j else r) r = .ok ↔ r = .ok ∧ ∀ j ∈ ins, f j = .ok := by
  induction ins generalizing r with
  | nil => simp
  | cons a t ih =>
    rw [List.foldl_cons, ih]
    by_cases h : r = .ok <;> simp [h]

theorem foldl_keep (P : Res → Prop) (f : Nat → Res) (ins : List Nat) (hf : ∀ j ∈ ins, P (f j)) (r : Res)
    (hr : P r) : P (ins.foldl (fun r j => if r = .ok then f j else r) r) :=
  List.foldlRecOn ins _ hr fun r hr j hj => by split; exact hf j hj; exact hr

/-- **Circular definitions.**  If an unending chain of inputs starts at a field
    (any cycle gives one), its evaluation does not succeed, at any counter value. -/
theorem eval_unending_chain_fails (g : Graph) (p : Nat → Nat)
    (hp : ∀ k, ∃ ins, g[p k]? = some ins ∧ p (k + 1) ∈ ins) :
    ∀ budget k, eval g budget (p k) ≠ .ok := by
  intro budget
  induction budget with
  | zero => intro k; simp [eval]
  | succ b ih =>
    intro k
    cases b with
    | zero => simp [eval]
    | succ b =>
      obtain ⟨ins, h1, h2⟩ := hp k
      simp only [eval, h1]
      exact fun h => ih (k + 1) (((foldl_ok_iff _ ins _).1 h).2 _ h2)

theorem eval_closed_no_badCode (g : Graph) (hc : ∀ (i : Nat) (ins : List Nat), g[i]? = some ins → ∀ j ∈ ins, j < g.length) :
    ∀ budget i, i < g.length → eval g budget i ≠ .badCode := by
  intro budget
  induction budget with
  | zero => intro i _; simp [eval]
  | succ b ih =>
    intro i hi
    cases b with
    | zero => simp [eval]
    | succ b =>
      have : g[i]? = some g[i] := List.getElem?_eq_getElem hi
      simp only [eval, this]
      exact foldl_keep (· ≠ .badCode) _ _ (fun j hj => ih j (hc i _ this j hj)) .ok (by simp)

/-- **Circular definitions end in GD_E_RECURSE_LEVEL** (all inputs existing). -/
theorem circular_ends_in_recurse_level (g : Graph) (p : Nat → Nat)
    (hc : ∀ (i : Nat) (ins : List Nat), g[i]? = some ins → ∀ j ∈ ins, j < g.length)
    (hp : ∀ k, ∃ ins, g[p k]? = some ins ∧ p (k + 1) ∈ ins) :
    evalTop g (p 0) = .recurse := by
  have hlt : p 0 < g.length := by
    obtain ⟨ins, h, _⟩ := hp 0
    exact (List.getElem?_eq_some_iff.mp h).1
  unfold evalTop
  cases h : eval g maxRecurse (p 0) with
  | ok => exact absurd h (eval_unending_chain_fails g p hp maxRecurse 0)
  | badCode => exact absurd h (eval_closed_no_badCode g hc maxRecurse (p 0) hlt)
  | recurse => rfl

/-- non-vacuity and the exact limit: a chain of 30 derived fields over a RAW
    field evaluates, a chain of 31 does not (the RAW field would be the 32nd level) -/
example : evalTop (chain 30) 30 = .ok ∧ evalTop (chain 31) 31 = .recurse := by decide +kernel
example : evalTop [[1], [2], [0]] 0 = .recurse := by decide   -- a three-cycle

open GdModel.Scope in
theorem item_err_of_too_deep (i : Item) (depth : Nat) (st : St)
    (h : depth + i.depth ≥ Scope.maxRecurse) (hd : depth < Scope.maxRecurse) :
    (Impl.item depth i st).err = true :=
  (run_err.item depth i st hd).2 (.inr h)

/-- an include tree nested to GD_MAX_RECURSE_LEVEL or deeper (a circular /INCLUDE,
    unrolled to that depth, is one) makes gd_open fail with GD_E_RECURSE_LEVEL
    instead of recursing on -/
theorem deep_include_ends_in_recurse_level (perm ped : Bool) (root : GdModel.Scope.Attrs)
    (its : GdModel.Scope.Items) (h : its.depth ≥ GdModel.Scope.maxRecurse) :
    (GdModel.Scope.parse perm ped root its).err = true :=
  (GdModel.Scope.run_err.items 0 its _ (by decide)).2 (.inr (by rwa [Nat.zero_add]))

/-- `_GD_SampIndRead` on a file whose record indices are arbitrary values the
    repaired `_GD_Advance` accepts ([-1, 2^63-2], in any order): never more than
    `nelem` samples are delivered. -/
theorem sie_read_count_bound (nelem : Int) (recs : List Int) (hn0 : 0 ≤ nelem)
    (hv : ∀ r ∈ recs, GdModel.Hostile.Sie.ValidIdx r) :
    0 ≤ (GdModel.Hostile.Sie.read nelem recs ⟨0, -1, 0⟩).count ∧
    (GdModel.Hostile.Sie.read nelem recs ⟨0, -1, 0⟩).count ≤ nelem := by
  have h := GdModel.Hostile.Sie.read_inv nelem recs ⟨0, -1, 0⟩ hv (GdModel.Hostile.Sie.init_inv nelem hn0)
  exact ⟨h.c0, h.cM⟩

/-- On such a file `s - p` and `s + 1` fit in an int64 for the cursor the loop ends
    with (`GdModel.Hostile.Sie.inv_fits` applied to `readLoop_inv`).  Nothing is
    stated about the cursors in between. -/
theorem sie_cursor_fits_int64 (nelem : Int) (recs : List Int) (hn : nelem ≤ 2 ^ 62) (hn0 : 0 ≤ nelem)
    (hv : ∀ r ∈ recs, GdModel.Hostile.Sie.ValidIdx r) :
    -2 ^ 63 ≤ (GdModel.Hostile.Sie.readLoop nelem recs ⟨0, -1, 0⟩).s - (GdModel.Hostile.Sie.readLoop nelem recs ⟨0, -1, 0⟩).p ∧
    (GdModel.Hostile.Sie.readLoop nelem recs ⟨0, -1, 0⟩).s - (GdModel.Hostile.Sie.readLoop nelem recs ⟨0, -1, 0⟩).p < 2 ^ 63 ∧
    (GdModel.Hostile.Sie.readLoop nelem recs ⟨0, -1, 0⟩).s + 1 ≤ GdModel.Hostile.Sie.maxI := by
  -- the bound `hn` on `nelem` is not used: the invariant alone bounds the cursor
  have h := GdModel.Hostile.Sie.inv_fits nelem _
    (GdModel.Hostile.Sie.readLoop_inv nelem recs ⟨0, -1, 0⟩ hv (GdModel.Hostile.Sie.init_inv nelem hn0))
  exact ⟨h.1, h.2.1, h.2.2.1⟩

end GdModel.Props.C05
