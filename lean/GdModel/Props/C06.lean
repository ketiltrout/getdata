/-
  Property C06 — numeric type conversion preserves every representable value.

  The 12×12 table `convTable` is regenerated from src/types.c on every run
  (extractor X1).  The theorems below say, for ALL source values:

  * `table_sem_canonical`, `convert_spec` : every table entry is the conversion
     the property describes (`specConv`), for all 144 pairs;
  * the clauses of the property, read off `specConv` / `ccast`: `int_int_wrap`,
     `representable_preserved`, `float_to_int_trunc`, `int_to_float_nearest`
     (with `rne_nearest`, `rne_ties_even`, `rne_exact` for its rounding step),
     `real_to_complex`, `complex_to_real`.
-/
import GdModel.Num.CastLemmas
import GdModel.Generated.ConvTable

namespace GdModel.Props.C06
open GdModel.Num GdModel.Generated

/-- A sample is a valid bit pattern of type `t`. -/
def SampleWF (t : Ty) (x : Sample) : Prop :=
  x.re < 2 ^ t.comp.width ∧ (if t.isComplex then x.im < 2 ^ t.comp.width else x.im = 0)

/-- what `chainOK` accepts of a plain cast loop: the canonical chain, or the shape
    described at its definition, clause by clause -/
theorem chainOK_cast_iff {s d : Ty} {l ct st : CT} :
    chainOK s d (.cast l ct st) = true ↔ Chain.cast l ct st = canonical s d ∨
      s.isComplex = false ∧ d.isComplex = false ∧ s ≠ d ∧ l = s.comp ∧
      d.comp.isFloat = false ∧ ct.isFloat = false ∧ st.isFloat = false ∧ st.width = d.comp.width ∧
      (s.comp.isFloat = false ∧ d.comp.width ≤ ct.width ∨ ct = d.comp) := by
  simp only [chainOK, Bool.or_eq_true, Bool.and_eq_true, Bool.not_eq_true', bne_iff_ne, ne_eq,
    beq_iff_eq, decide_eq_true_eq, and_assoc]

theorem chainOK_sound (s d : Ty) (c : Chain) (h : chainOK s d c = true) (x : Sample) :
    c.sem x = (canonical s d).sem x := by
  cases c with
  | cast l ct st =>
    rcases chainOK_cast_iff.1 h with h | ⟨hs, hd, hne, hl, hdf, hctf, hstf, hsw, hfl⟩
    · rw [h]
    have hcan : canonical s d = .cast s.comp d.comp d.comp := by
      unfold canonical; rw [if_neg hne, hs, hd]
    rw [hcan]
    simp only [Chain.sem]
    rw [cast2_same, hl]
    congr 1
    rcases hfl with ⟨hsf, hge⟩ | hfl
    · -- integer source, cast type at least as wide as the destination
      exact cast2_int_via_wider hsf hctf hstf hdf hsw hge x.re
    · -- cast type is the destination type; store type has its width
      rw [hfl]
      exact cast2_int_store hdf hstf hsw x.re
  | _ =>
    -- every other shape is accepted only as the canonical chain
    simp only [chainOK, Bool.or_false, beq_iff_eq] at h
    rw [h]

/-- Both checks on the generated table in one sweep over its 144 entries. -/
theorem table_ok_all :
    (Ty.all.all fun s => Ty.all.all fun d => chainOK s d (convTable s d) && (convTable s d).wf s d) = true := by
  decide +kernel

theorem table_ok (s d : Ty) : chainOK s d (convTable s d) = true ∧ (convTable s d).wf s d = true := by
  have h := List.all_eq_true.1 (List.all_eq_true.1 table_ok_all s (Ty.mem_all s)) d (Ty.mem_all d)
  exact Bool.and_eq_true_iff.1 h

/-- Every pointer cast in the table addresses elements of the right width. -/
theorem table_wf (s d : Ty) : (convTable s d).wf s d = true :=
  (table_ok s d).2

/-- **Main table theorem.** For every ordered pair of sample types and every
    source sample, the statement found in `_GD_ConvertType` computes what the
    canonical chain (load as source type, cast to destination type, store as
    destination type) computes. -/
theorem table_sem_canonical (s d : Ty) (x : Sample) :
    (convTable s d).sem x = (canonical s d).sem x :=
  chainOK_sound s d _ (table_ok s d).1 x

/-- The canonical chain is the conversion the property states: the second,
    implicit conversion to the lvalue type is the identity (`cast2_same`), and
    so is a cast to the sample's own type on a valid sample. -/
theorem canonical_sem_spec (s d : Ty) (x : Sample) (hx : SampleWF s x) :
    (canonical s d).sem x = specConv s d x := by
  obtain ⟨hre, him⟩ := hx
  unfold canonical specConv
  by_cases hsd : s = d
  · subst hsd
    rw [if_pos rfl, ccast_self _ _ fun _ => hre]
    cases hc : s.isComplex <;> simp only [hc, Bool.false_eq_true, if_false, if_true] at him
    · obtain ⟨re, im⟩ := x
      cases him
      rfl
    · rw [ccast_self _ _ fun _ => him]
      rfl
  · rw [if_neg hsd]
    cases s.isComplex <;> cases d.isComplex <;> simp only [Chain.sem, cast2_same]
    -- complex → complex is left: `Chain.sem` and `specConv` pair the two casts by
    -- `match`es of their own, equal by unfolding
    rfl

/-- **C06, table form.**  What `_GD_ConvertType` does for the pair (s,d) on any
    valid source sample is exactly `specConv s d`. -/
theorem convert_spec (s d : Ty) (x : Sample) (hx : SampleWF s x) :
    (convTable s d).sem x = specConv s d x := by
  rw [table_sem_canonical, canonical_sem_spec s d x hx]

/-- integer → integer: the destination holds the source value modulo 2^N. -/
theorem int_int_wrap (s d : CT) (hs : s.isFloat = false) (hd : d.isFloat = false) (x : Nat) :
    ∃ r, ccast s d x = some r ∧ r < 2 ^ d.width ∧
      d.toInt r % (2 : Int) ^ d.width = s.toInt x % (2 : Int) ^ d.width :=
  ⟨_, ccast_int_int hs hd x, CT.ofInt_lt _ _, CT.toInt_ofInt_emod _ _⟩

/-- integer → integer: a value representable in the destination arrives unchanged. -/
theorem representable_preserved (s d : CT) (hs : s.isFloat = false) (hd : d.isFloat = false)
    (x : Nat) (hr : d.inRange (s.toInt x) = true) :
    ∃ r, ccast s d x = some r ∧ d.toInt r = s.toInt x :=
  ⟨_, ccast_int_int hs hd x, CT.toInt_ofInt_of_inRange d _ hr⟩

/-- Truncation toward zero: `truncMag m e` is ⌊m·2^e⌋. -/
theorem truncMag_floor (m : Nat) (e : Int) (he : e < 0) :
    truncMag m e * 2 ^ (-e).toNat ≤ m ∧ m < (truncMag m e + 1) * 2 ^ (-e).toNat := by
  unfold truncMag
  rw [if_neg (by omega), Nat.mul_comm (_ + 1)]
  exact ⟨Nat.div_mul_le_self m _, Nat.lt_mul_div_succ m (Nat.two_pow_pos _)⟩

theorem truncMag_exact (m : Nat) (e : Int) (he : 0 ≤ e) : truncMag m e = m * 2 ^ e.toNat := by
  unfold truncMag; rw [if_pos he]

/-- floating → integer: a finite value whose integer part fits the destination
    becomes that integer part (sign kept, fraction dropped: `truncMag`, which
    `truncMag_floor` and `truncMag_exact` characterise); NaN, ±Inf and out-of-range
    values are exactly the C-undefined cases.  NaN and ±Inf do not decode to `.fin`,
    so for them the right side of the second clause holds vacuously. -/
theorem float_to_int_trunc (s d : CT) (hs : s.isFloat = true) (hd : d.isFloat = false) (x : Nat) :
    (∀ r, ccast s d x = some r →
        ∃ neg m e, s.fmt.decode x = .fin neg m e ∧
          d.toInt r = (if neg = true then -(truncMag m e : Int) else (truncMag m e : Int))) ∧
    (ccast s d x = none ↔
        (∀ neg m e, s.fmt.decode x = .fin neg m e →
          d.inRange (if neg = true then -(truncMag m e : Int) else (truncMag m e : Int)) = false)) := by
  rw [ccast_float_int hs hd]
  cases hdec : s.fmt.decode x with
  | nan n p => simp
  | inf n => simp
  | fin neg m e =>
    refine ⟨fun r hr => ?_, by simp⟩
    obtain ⟨hin, hr⟩ := Option.ite_none_right_eq_some.1 hr
    cases hr
    exact ⟨neg, m, e, rfl, CT.toInt_ofInt_of_inRange d _ hin⟩

/-- Round-to-nearest-even on a quotient and remainder: with m = P·q + r, r < P = 2h,
    the integer chosen is within half a unit of m / P, even on a tie, and exact when r = 0. -/
theorem rne_arith {m P q r h n : Nat} (hm : P * q + r = m) (hr : r < P) (hP : P = 2 * h)
    (hn : n = if h < r ∨ (r = h ∧ q % 2 = 1) then q + 1 else q) :
    (2 * (n * P) ≤ 2 * m + P ∧ 2 * m ≤ 2 * (n * P) + P) ∧ (r = h → n % 2 = 0) ∧ (r = 0 → n * P = m) := by
  rw [Nat.mul_comm] at hm
  subst hn hm
  split
  · rw [Nat.add_mul, Nat.one_mul]; omega
  · omega

/-- `rne m k` for k > 0 is the `n` of `rne_arith` for P = 2^k -/
theorem rne_pos (m k : Nat) (hk : 0 < k) :
    (2 * (rne m k * 2 ^ k) ≤ 2 * m + 2 ^ k ∧ 2 * m ≤ 2 * (rne m k * 2 ^ k) + 2 ^ k) ∧
    (m % 2 ^ k = 2 ^ k / 2 → rne m k % 2 = 0) ∧ (m % 2 ^ k = 0 → rne m k * 2 ^ k = m) := by
  have hP : 2 ^ k = 2 * (2 ^ k / 2) := by
    rw [← Nat.two_pow_pred_mul_two hk, Nat.mul_div_cancel _ (by decide), Nat.mul_comm]
  refine rne_arith (Nat.div_add_mod m (2 ^ k)) (Nat.mod_lt m (Nat.two_pow_pos k)) hP ?_
  unfold rne
  exact if_neg (by omega)

/-- Round-to-nearest: the integer chosen for m / 2^k is within half a unit. -/
theorem rne_nearest (m k : Nat) (hk : 0 < k) :
    2 * (rne m k * 2 ^ k) ≤ 2 * m + 2 ^ k ∧ 2 * m ≤ 2 * (rne m k * 2 ^ k) + 2 ^ k :=
  (rne_pos m k hk).1

/-- Ties go to the even neighbour. -/
theorem rne_ties_even (m k : Nat) (hk : 0 < k) (htie : m % 2 ^ k = 2 ^ k / 2) :
    rne m k % 2 = 0 :=
  (rne_pos m k hk).2.1 htie

/-- When no bits are dropped the value is unchanged. -/
theorem rne_exact (m : Nat) : rne m 0 = m := by unfold rne; simp

/-- When the dropped bits are zero the quotient is exact. -/
theorem rne_of_dvd (m k : Nat) (h : m % 2 ^ k = 0) : rne m k * 2 ^ k = m := by
  cases k with
  | zero => rw [rne_exact, Nat.pow_zero, Nat.mul_one]
  | succ j => exact (rne_pos m _ (Nat.succ_pos j)).2.2 h

/-- integer → floating: the significand is chosen by round-to-nearest-even of
    the integer's magnitude (this is the definition `ccast` unfolds to;
    `rne_nearest`, `rne_ties_even`, `rne_exact` and `rne_of_dvd` say what that rounding is). -/
theorem int_to_float_nearest (s d : CT) (hs : s.isFloat = false) (hd : d.isFloat = true) (x : Nat) :
    ccast s d x = some (d.fmt.round (decide (s.toInt x < 0)) (s.toInt x).natAbs 0) := by
  unfold ccast; rw [hs, hd]

theorem specConv_real (s d : Ty) (h : s.isComplex = false ∨ d.isComplex = false) (x : Sample) :
    specConv s d x = (ccast s.comp d.comp x.re).map (fun r => ⟨r, 0⟩) := by
  unfold specConv
  rcases h with h | h <;> rw [h]
  · cases d.isComplex <;> rfl
  · cases s.isComplex <;> rfl

/-- real → complex: the imaginary part is +0 (bit pattern 0). -/
theorem real_to_complex (s d : Ty) (hs : s.isComplex = false) (hd : d.isComplex = true)
    (x r : Sample) (h : specConv s d x = some r) :
    r.im = 0 ∧ ccast s.comp d.comp x.re = some r.re := by
  rw [specConv_real s d (.inl hs)] at h
  obtain ⟨v, hv, rfl⟩ := Option.map_eq_some_iff.1 h
  exact ⟨rfl, hv⟩

/-- complex → real: the imaginary part is dropped, the real part converted. -/
theorem complex_to_real (s d : Ty) (hs : s.isComplex = true) (hd : d.isComplex = false)
    (x : Sample) :
    specConv s d x = (ccast s.comp d.comp x.re).map (fun r => ⟨r, 0⟩) :=
  specConv_real s d (.inr hd) x

/-- INT16 −1 → UINT32 is 4294967295 (the entry that loaded `uint16_t` before the fix). -/
example : (convTable .i16 .u32).sem ⟨0xFFFF, 0⟩ = some ⟨4294967295, 0⟩ := by decide
/-- FLOAT64 3e9 → UINT32 is 3000000000 (the entry that cast through `int32_t`). -/
example : (convTable .f64 .u32).sem ⟨0x41E65A0BC0000000, 0⟩ = some ⟨3000000000, 0⟩ := by decide
/-- 2^53+1 → FLOAT64 rounds to even (2^53). -/
example : ccast .u64 .f64 (2 ^ 53 + 1) = some 0x4340000000000000 := by decide
/-- 2^53+3 → FLOAT64 rounds to even (2^53+4). -/
example : ccast .u64 .f64 (2 ^ 53 + 3) = some 0x4340000000000002 := by decide
example : ccast .f64 .i8 0xC060000000000000 = some 0x80 := by decide   -- -128.0 → INT8
example : ccast .f64 .i8 0xC060200000000000 = none := by decide        -- -129.0 is undefined
example : SampleWF .c64 ⟨0x3F800000, 0x40000000⟩ := by unfold SampleWF; decide
example : ccast .f64 .f32 0x3FF0000010000000 = some 0x3F800000 := by decide  -- tie → even
example : ccast .f64 .f32 0x3FF0000030000000 = some 0x3F800002 := by decide

end GdModel.Props.C06
