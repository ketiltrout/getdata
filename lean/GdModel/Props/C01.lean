/-
  Property C01 — reads return the values the Dirfile Standards define.

  Model: `GdModel.Field` (a field is the tree of its inputs; the pointwise
  operations are parameters, so the theorems hold for the C arithmetic whatever
  it is).  `Impl.read` is shaped like `_GD_DoField`/`_GD_Do*` in
  src/getdata.c; `Spec.sample` is the pointwise definition of
  dirfile-format(5) with secondary inputs sampled at ⌊n·s₂/s₁⌋.

  * `read_window_eq_spec` — for every field tree with positive rates, every
    start and every length: an aligned read returns `min n (eof − s)` samples
    and sample i is `Spec.sample (s+i)` (`Field.read_spec`, by induction on the
    tree; the count arithmetic of `num_samp2`/short-read adjustment is `nr_eq`).
  * `read_unaligned_counterexample` — outside the aligned region the readers
    do not satisfy the property (known finding 5.1).
  * `single_rate_always_aligned` — equal sample rates (what the repository's
    tests use) are always in the aligned region, provided the start, after the
    PHASE shifts above it, is non-negative at every multi-input field
    (`NonNegStarts`).
  * `eof_impl_eq_spec_partial`, `eof_clamp_counterexample` — `_GD_GetEOF`
    computes the pointwise end-of-field unless a PHASE has pushed its input
    entirely before sample 0 (its clamp at 0); witness of the disagreement.
  * RAW byte decoding: `decode_encode_comp` for every component type and all
    4 byte orders (Bytes.Lemmas, imported here only so that building this
    module checks it); whole samples and files are in Props/C04.
-/
import GdModel.Field.ReadSpec
import GdModel.Bytes.Lemmas

namespace GdModel.Props.C01
open GdModel.Field

variable {α : Type}

/-- **C01/C16 main theorem** (`Field.read_spec` with `ReadOK` written out). -/
theorem read_window_eq_spec (junk : α) (f : Fld α) (hwf : f.WF = true) (s : Int) (n : Nat)
    (hal : Aligned f s = true) :
    (Impl.read junk f s n).length = count (Spec.eof f) s n ∧
    ∀ i, i < count (Spec.eof f) s n → (Impl.read junk f s n)[i]? = Spec.sample f (s + i) :=
  read_spec junk f hwf s n hal

/-- What the buffers held before the call (`junk`) never shows in an aligned read. -/
theorem read_independent_of_junk (j1 j2 : α) (f : Fld α) (hwf : f.WF = true) (s : Int) (n : Nat)
    (hal : Aligned f s = true) : Impl.read j1 f s n = Impl.read j2 f s n := by
  have h1 := read_spec j1 f hwf s n hal
  have h2 := read_spec j2 f hwf s n hal
  apply List.ext_getElem?
  intro i
  by_cases hi : i < count (Spec.eof f) s n
  · rw [h1.getElem?_eq hi, h2.getElem?_eq hi]
  · rw [List.getElem?_eq_none (h1.length_eq ▸ Nat.not_lt.mp hi),
      List.getElem?_eq_none (h2.length_eq ▸ Nat.not_lt.mp hi)]

/-- every sample of the window that an aligned read returns has a value -/
theorem window_samples_exist (junk : α) (f : Fld α) (hwf : f.WF = true) (s : Int) (n i : Nat)
    (hal : Aligned f s = true) (hi : i < count (Spec.eof f) s n) :
    (Spec.sample f (s + i)).isSome = true := by
  rw [(read_spec junk f hwf s n hal).sample_eq junk hi]; rfl

/-- fields all of whose RAW inputs have the same rate -/
def SingleRate (r : Nat) : Fld α → Bool
  | .raw spf _ _ _ => spf == r
  | .index _ => r == 1
  | .map1 _ x => SingleRate r x
  | .phase _ x => SingleRate r x
  | .map2 _ a b => SingleRate r a && SingleRate r b
  | .map3 _ a b c => SingleRate r a && SingleRate r b && SingleRate r c

/-- PHASE shifts under a multi-input field keep the start non-negative -/
def NonNegStarts : Fld α → Int → Bool
  | .raw _ _ _ _, _ => true
  | .index _, _ => true
  | .map1 _ x, s => NonNegStarts x s
  | .phase sh x, s => NonNegStarts x (s + sh)
  | .map2 _ a b, s => decide (0 ≤ s) && NonNegStarts a s && NonNegStarts b s
  | .map3 _ a b c, s => decide (0 ≤ s) && NonNegStarts a s && NonNegStarts b s && NonNegStarts c s

theorem singleRate_spf (r : Nat) (f : Fld α) (h : SingleRate r f = true) : f.spf = r := by
  induction f with
  | raw spf _ _ _ => exact eq_of_beq h
  | index _ => exact (eq_of_beq h).symm
  | map1 _ x ih => exact ih h
  | phase _ x ih => exact ih h
  | map2 _ a _ iha _ => exact iha (Bool.and_eq_true_iff.mp h).1
  | map3 _ a _ _ iha _ _ => exact iha (Bool.and_eq_true_iff.mp (Bool.and_eq_true_iff.mp h).1).1

theorem single_rate_always_aligned (r : Nat) (hr : 0 < r) :
    ∀ (f : Fld α) (s : Int), SingleRate r f = true → NonNegStarts f s = true → Aligned f s = true := by
  have hdiv (s : Int) : s * (r : Int) / (r : Int) = s :=
    Int.mul_ediv_cancel _ (Int.ne_of_gt (Int.natCast_pos.mpr hr))
  intro f
  induction f with
  | raw => intros; rfl
  | index => intros; rfl
  | map1 _ x ih => exact ih
  | phase sh x ih => exact fun s => ih (s + sh)
  | map2 _ a b iha ihb =>
    intro s h hn
    simp only [SingleRate, NonNegStarts, Bool.and_eq_true, decide_eq_true_eq] at h hn
    simp only [Aligned, singleRate_spf r a h.1, singleRate_spf r b h.2, hdiv, Int.mul_emod_left,
      iha s h.1 hn.1.2, ihb s h.2 hn.2, hn.1.1, decide_true, Bool.and_self]
  | map3 _ a b c iha ihb ihc =>
    intro s h hn
    simp only [SingleRate, NonNegStarts, Bool.and_eq_true, decide_eq_true_eq] at h hn
    simp only [Aligned, singleRate_spf r a h.1.1, singleRate_spf r b h.1.2, singleRate_spf r c h.2, hdiv,
      Int.mul_emod_left, iha s h.1.1 hn.1.1.2, ihb s h.1.2 hn.1.2, ihc s h.2 hn.2, hn.1.1.1, decide_true,
      Bool.and_self]

/-- `a RAW 2/frame = 1,2,3,…`, `b RAW 1/frame = 10,11,…`, `m = a + b` (any
    two-input field): reading 4 samples from sample 1, which is not on a frame
    boundary, the reader returns 12,13,15,16 where the Standards define
    12,14,15,17 (b sampled at ⌊n/2⌋). -/
def exA : Fld Nat := .raw 2 0 0 [1, 2, 3, 4, 5, 6, 7, 8]
def exB : Fld Nat := .raw 1 0 0 [10, 11, 12, 13]
def exM : Fld Nat := .map2 (· + ·) exA exB

example : Impl.read 0 exM 1 4 = [12, 13, 15, 16] := by decide
example : (List.range 4).map (fun (i : Nat) => Spec.sample exM (1 + (i : Int))) = [some 12, some 14, some 15, some 17] := by
  decide
theorem read_unaligned_counterexample :
    ¬ ∀ (f : Fld Nat) (s : Int) (n : Nat), f.WF = true → 0 ≤ s →
        ∀ i, i < count (Spec.eof f) s n → (Impl.read 0 f s n)[i]? = Spec.sample f (s + i) := by
  intro h
  have := h exM 1 4 (by decide) (by decide) 1 (by decide)
  revert this; decide

example : Aligned exM 2 = true := by decide
example : Aligned exM 1 = false := by decide
/-- the hypotheses of `read_window_eq_spec` can be met: a 3:2 rate pair with a
    PHASE and frame offsets -/
def exC : Fld Nat := .raw 3 6 0 [1, 2, 3, 4, 5, 6, 7, 8, 9, 10, 11]
def exD : Fld Nat := .raw 2 4 0 [20, 21, 22, 23, 24, 25, 26]
def exT : Fld Nat := .map2 (· * ·) (.phase 3 exC) (.map1 (· + 1) exD)
example : exT.WF = true ∧ Aligned exT 6 = true ∧ count (Spec.eof exT) 6 100 = 8 := by decide
example : Impl.read 0 exT 6 100 = (List.range 8).filterMap (fun (i : Nat) => Spec.sample exT (6 + (i : Int))) := by decide

/-- no PHASE whose input ends before the shift -/
def NoClamp : Fld α → Bool
  | .raw _ _ _ _ => true
  | .index _ => true
  | .map1 _ x => NoClamp x
  | .phase sh x => NoClamp x && (match Spec.eof x with | none => true | some e => decide (0 ≤ e - sh))
  | .map2 _ a b => NoClamp a && NoClamp b
  | .map3 _ a b c => NoClamp a && NoClamp b && NoClamp c

theorem eof_impl_eq_spec_partial : ∀ (f : Fld α), NoClamp f = true → Impl.eof f = Spec.eof f := by
  intro f
  induction f with
  | raw => intro; rfl
  | index => intro; rfl
  | map1 _ x ih => exact ih
  | phase sh x ih =>
    intro h
    have ⟨h1, h2⟩ := Bool.and_eq_true_iff.mp h
    rw [Impl.eof, Spec.eof, ih h1]
    cases he : Spec.eof x with
    | none => rfl
    | some e => rw [he] at h2; exact congrArg some (Int.max_eq_right (of_decide_eq_true h2))
  | map2 _ a b iha ihb =>
    intro h
    have ⟨h1, h2⟩ := Bool.and_eq_true_iff.mp h
    rw [Impl.eof, Spec.eof, iha h1, ihb h2]
  | map3 _ a b c iha ihb ihc =>
    intro h
    have ⟨h12, h3⟩ := Bool.and_eq_true_iff.mp h
    have ⟨h1, h2⟩ := Bool.and_eq_true_iff.mp h12
    rw [Impl.eof, Spec.eof, iha h1, ihb h2, ihc h3]

/-- Two data samples, shifted 5 to the left (all data before sample 0), then
    4 to the right: sample 0 is data sample 1, sample 1 does not exist — the
    field ends at 1, but `gd_eof` reports 4 and a read from 0 returns one sample. -/
def exP : Fld Nat := .phase (-4) (.phase 5 (.raw 1 0 0 [7, 8]))
theorem eof_clamp_counterexample :
    Impl.eof exP = some 4 ∧ Spec.eof exP = some 1 ∧ (Impl.read 0 exP 0 10).length = 1 := by decide

end GdModel.Props.C01
