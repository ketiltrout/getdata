/-
  Property C14 — data-file replacement is all-or-nothing and leaves no debris.

  The library replaces a data file by the same write-to-temporary-then-rename
  protocol as a format fragment (GdModel.Replace.Model); the theorems of
  Props/C12 therefore apply verbatim to an in-place replacement (closing an
  out-of-place gzip/bzip2/lzma write, re-coding for byte order, frame offset,
  type or sample rate).  When the NAME changes as well (a new encoding's
  extension, a move to another directory, a rename) the old file is unlinked
  after the new one has been renamed into place.  Proved here for every file
  system, content and kill point:

  * `replace_in_place`     = C12.crash_old_or_new for a data file;
  * `move_old_or_new`      at every prefix of  create tmp; writes; chmod; close;
                           rename tmp new; unlink old  a complete copy exists:
                           the old file still has its complete content, or the
                           new name has the complete new content (or both);
  * `move_fail_keeps_old`  a failing call before the rename leaves the old file
                           complete and no temporary;
  * `move_no_debris`       after the whole sequence the old name is gone, the new
                           name holds the new content, and no file other than
                           these and the temporary has changed.  The statement is
                           silent on the temporary; that it is gone as well is
                           `C12.runOps_protocol`, not this theorem.
-/
import GdModel.Props.C12
namespace GdModel.Props.C14
open GdModel.Replace GdModel.Props.C12

theorem replace_in_place (fs : FS) (tmp target : String) (chunks : List Content) (k : Nat) (hne : target ≠ tmp) :
    (crashAt fs tmp target chunks k).read target =
      if k < chunks.length + 4 then fs.read target else some chunks.flatten :=
  crash_old_or_new fs tmp target chunks k hne

def moveProtocol (tmp old new : String) (chunks : List Content) : List Op :=
  protocol tmp new chunks ++ [.unlink old]

theorem moveProtocol_length (tmp old new : String) (chunks : List Content) :
    (moveProtocol tmp old new chunks).length = chunks.length + 5 := by
  simp [moveProtocol, protocol_length]

theorem move_old_or_new (fs : FS) (tmp old new : String) (chunks : List Content) (k : Nat) (oldc : Content)
    (h1 : new ≠ tmp) (h2 : old ≠ tmp) (h3 : old ≠ new) (hold : fs.read old = some oldc) :
    let fs' := runOps fs ((moveProtocol tmp old new chunks).take k)
    fs'.read old = some oldc ∨ fs'.read new = some chunks.flatten := by
  rw [moveProtocol, runOps_take_protocol_append]
  by_cases hk : k ≤ chunks.length + 4
  · -- the unlink has not happened, and the replacement of `new` does not touch `old`
    rw [Nat.sub_eq_zero_of_le hk]
    exact .inl ((crash_others fs tmp new old chunks k h2 h3).trans hold)
  · -- the rename has happened, and the unlink does not name `new`
    refine .inr ((runOps_read (fun op hop => ?_) _).trans ?_)
    · cases List.mem_singleton.mp (List.mem_of_mem_take hop)
      simpa [names] using Ne.symm h3
    · rw [crash_old_or_new _ _ _ _ _ h1, if_neg (by omega)]

theorem move_fail_keeps_old (fs : FS) (h : Handle) (tmp old new : String) (chunks : List Content) (k : Nat)
    (oldc : Content) (h1 : new ≠ tmp) (h2 : old ≠ tmp) (h3 : old ≠ new) (hold : fs.read old = some oldc)
    (hk : k < chunks.length + 4) :
    let r := failAt fs h tmp new chunks k
    r.1.read old = some oldc ∧ r.1.read tmp = none ∧ r.1.read new = fs.read new ∧ r.2.2 = false := by
  simp [failAt_of_lt h hk, h1, h2, hold]

theorem move_no_debris (fs : FS) (tmp old new m : String) (chunks : List Content)
    (h1 : new ≠ tmp) (h2 : old ≠ tmp) (h3 : old ≠ new) (htmp : fs.read tmp = none)
    (hm1 : m ≠ tmp) (hm2 : m ≠ new) (hm3 : m ≠ old) :
    let fs' := runOps fs (moveProtocol tmp old new chunks)
    fs'.read new = some chunks.flatten ∧ fs'.read old = none ∧ fs'.read m = fs.read m := by
  simp [moveProtocol, runOps_protocol, apply, Ne.symm h3, hm1, hm2, hm3]

def fsd : FS := fun n => if n = "a" then some [1, 2] else none
example : (runOps fsd ((moveProtocol "a_tmp" "a" "a.gz" [[9], [8]]).take 4)).read "a" = some [1, 2] := by decide
example : (runOps fsd (moveProtocol "a_tmp" "a" "a.gz" [[9], [8]])).read "a.gz" = some [9, 8] := by decide
example : (runOps fsd (moveProtocol "a_tmp" "a" "a.gz" [[9], [8]])).read "a" = none := by decide

end GdModel.Props.C14
