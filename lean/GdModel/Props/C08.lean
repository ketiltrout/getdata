/-
  Property C08 — format files are tokenised as the Standards specify.

  Models: `Token.Impl.tokenise` mirrors `_GD_Tokenise` (src/parse.c) state for
  state; `Token.Spec.tokenise` is a recursive-descent reading of
  dirfile-format(5) "Tokens".  Both are executable and both are run against the
  real `_GD_Tokenise` exhaustively over the significant alphabet on every check
  (the correspondence), which is what ties the three together up to the
  enumerated length.  Proved here for ALL inputs:

  * `utf8_roundtrip`, `utf8_rejects` : the `\u` encoder produces the UTF-8 layout
    of every value 1…0x10FFFF (decoding gives the value back; like the C code it
    does not single out the surrogates) and rejects 0 and everything above;
  * `no_nul_in_tokens` : whatever the input (without NUL bytes), no token the
    state machine produces contains a NUL byte — escapes cannot smuggle one in
    (an invariant of the state, by induction over the rules of `Impl.Step`, carried through the
    run by `Impl.tokenise_induct`);
  * `octal_value_bound`, `hex_value_bound` : the arithmetic of "an octal or hex escape
    never produces a value above 0377": one more digit on an accumulator that is not
    yet full (≤ 037, < 0x10) stays below 0400;
  * `simpleEscape_table` : the eight letter escapes map to the documented
    control characters;
  * `tokenise_impl_eq_spec_v5` : under Standards Version ≤ 5 (backslash and quote
    are ordinary bytes) `Impl.tokenise` and `Spec.tokenise` agree on every line,
    as long as `tok_want` is out of reach.
  For Versions ≥ 6 the statement `Impl.tokenise = Spec.tokenise` for all byte
  strings is NOT proved (see DESIGN.md); it is checked exhaustively to a length bound.
-/
import GdModel.Token.Plain

namespace GdModel.Props.C08
open GdModel.Token

/-- UTF-8 decoder (RFC 3629 forms of 1–4 bytes) -/
def utf8Decode : List Nat → Option Nat
  | [a] => if a < 0x80 then some a else none
  | [a, b] => if 0xC0 ≤ a ∧ a < 0xE0 ∧ 0x80 ≤ b ∧ b < 0xC0 then some ((a - 0xC0) * 64 + (b - 0x80)) else none
  | [a, b, c] =>
      if 0xE0 ≤ a ∧ a < 0xF0 ∧ 0x80 ≤ b ∧ b < 0xC0 ∧ 0x80 ≤ c ∧ c < 0xC0 then
        some ((a - 0xE0) * 4096 + (b - 0x80) * 64 + (c - 0x80)) else none
  | [a, b, c, d] =>
      if 0xF0 ≤ a ∧ a < 0xF8 ∧ 0x80 ≤ b ∧ b < 0xC0 ∧ 0x80 ≤ c ∧ c < 0xC0 ∧ 0x80 ≤ d ∧ d < 0xC0 then
        some ((a - 0xF0) * 262144 + (b - 0x80) * 4096 + (c - 0x80) * 64 + (d - 0x80)) else none
  | _ => none

/-! A lead byte and continuation bytes with payloads `h`, `m`, `k`, `l` are bytes, and decode
    to the number with these digits in base 64. -/

theorem decode2 {h l : Nat} (hh : h < 32) (hl : l < 64) :
    utf8Decode [0xC0 + h, 0x80 + l] = some (h * 64 + l) ∧ ∀ b ∈ [0xC0 + h, 0x80 + l], 0 < b ∧ b < 256 := by
  simp only [utf8Decode, Nat.add_sub_cancel_left, List.forall_mem_cons]
  rw [if_pos (by omega)]
  exact ⟨rfl, by omega, by omega, nofun⟩

theorem decode3 {h m l : Nat} (hh : h < 16) (hm : m < 64) (hl : l < 64) :
    utf8Decode [0xE0 + h, 0x80 + m, 0x80 + l] = some ((h * 64 + m) * 64 + l) ∧
      ∀ b ∈ [0xE0 + h, 0x80 + m, 0x80 + l], 0 < b ∧ b < 256 := by
  simp only [utf8Decode, Nat.add_sub_cancel_left, List.forall_mem_cons]
  rw [if_pos (by omega)]
  exact ⟨congrArg some (by omega), by omega, by omega, by omega, nofun⟩

theorem decode4 {h m k l : Nat} (hh : h < 8) (hm : m < 64) (hk : k < 64) (hl : l < 64) :
    utf8Decode [0xF0 + h, 0x80 + m, 0x80 + k, 0x80 + l] = some (((h * 64 + m) * 64 + k) * 64 + l) ∧
      ∀ b ∈ [0xF0 + h, 0x80 + m, 0x80 + k, 0x80 + l], 0 < b ∧ b < 256 := by
  simp only [utf8Decode, Nat.add_sub_cancel_left, List.forall_mem_cons]
  rw [if_pos (by omega)]
  exact ⟨congrArg some (by omega), by omega, by omega, by omega, by omega, nofun⟩

theorem utf8_roundtrip (v : Nat) (h0 : 0 < v) (hmax : v ≤ 0x10FFFF) :
    ∃ bs : List Nat, utf8Encode v = some bs ∧ utf8Decode bs = some v ∧ ∀ b : Nat, b ∈ bs → 0 < b ∧ b < 256 := by
  -- the encoder's payloads `v / 4096 % 64` … are the base-64 digits of `v`, which
  -- `Nat.div_add_mod'` puts together again
  have h64 (x : Nat) : x % 64 < 64 := Nat.mod_lt _ (by decide)
  have h2 : v / 4096 = v / 64 / 64 := (Nat.div_div_eq_div_mul v 64 64).symm
  have h3 : v / 262144 = v / 64 / 64 / 64 := by rw [Nat.div_div_eq_div_mul, Nat.div_div_eq_div_mul]
  unfold utf8Encode
  rw [if_neg (by omega)]
  by_cases h7 : v ≤ 0x7F
  · rw [if_pos h7]
    exact ⟨_, rfl, by simp only [utf8Decode]; rw [if_pos (by omega)], by simp; omega⟩
  rw [if_neg h7]
  by_cases h11 : v ≤ 0x7FF
  · have := decode2 (h := v / 64) (Nat.div_lt_of_lt_mul (by omega)) (h64 v)
    rw [Nat.div_add_mod'] at this
    rw [if_pos h11]
    exact ⟨_, rfl, this⟩
  rw [if_neg h11]
  by_cases h16 : v ≤ 0xFFFF
  · have := decode3 (h := v / 64 / 64) (Nat.div_lt_of_lt_mul (Nat.div_lt_of_lt_mul (by omega))) (h64 (v / 64)) (h64 v)
    rw [Nat.div_add_mod', Nat.div_add_mod', ← h2] at this
    rw [if_pos h16]
    exact ⟨_, rfl, this⟩
  · have := decode4 (h := v / 64 / 64 / 64) (Nat.div_lt_of_lt_mul (Nat.div_lt_of_lt_mul (Nat.div_lt_of_lt_mul (by omega))))
      (h64 (v / 64 / 64)) (h64 (v / 64)) (h64 v)
    rw [Nat.div_add_mod', Nat.div_add_mod', Nat.div_add_mod', ← h3, ← h2] at this
    rw [if_neg h16]
    exact ⟨_, rfl, this⟩

theorem utf8_rejects (v : Nat) (h : v = 0 ∨ 0x10FFFF < v) : utf8Encode v = none := by
  unfold utf8Encode; rw [if_pos h]

theorem simpleEscape_table :
    simpleEscape 97 = some 7 ∧ simpleEscape 98 = some 8 ∧ simpleEscape 101 = some 27 ∧
    simpleEscape 102 = some 12 ∧ simpleEscape 110 = some 10 ∧ simpleEscape 114 = some 13 ∧
    simpleEscape 116 = some 9 ∧ simpleEscape 118 = some 11 ∧ simpleEscape 92 = none ∧
    simpleEscape 34 = none ∧ simpleEscape 35 = none := by decide

/-- a value found in a chain of `if`s has what every value in the chain has -/
theorem of_ite_some {P : Nat → Prop} {p : Prop} [Decidable p] {x b : Nat} {e : Option Nat}
    (h : (if p then some x else e) = some b) (hx : P x) (he : e = some b → P b) : P b := by
  split at h
  · cases h; exact hx
  · exact he h

theorem simpleEscape_pos {c b : Nat} (h : simpleEscape c = some b) : 0 < b :=
  of_ite_some h (by decide) fun h => of_ite_some h (by decide) fun h => of_ite_some h (by decide) fun h =>
  of_ite_some h (by decide) fun h => of_ite_some h (by decide) fun h => of_ite_some h (by decide) fun h =>
  of_ite_some h (by decide) fun h => of_ite_some h (by decide) nofun

def NoNul (l : List Nat) : Prop := ∀ b : Nat, b ∈ l → 0 < b

theorem noNul_cons {b : Nat} {l : List Nat} (hb : 0 < b) (hl : NoNul l) : NoNul (b :: l) :=
  List.forall_mem_cons.2 ⟨hb, hl⟩

theorem noNul_reverse {a : List Nat} (ha : NoNul a) : NoNul a.reverse :=
  fun x hx => ha x (List.mem_reverse.mp hx)

theorem utf8_noNul {v : Nat} {bs : List Nat} (h : utf8Encode v = some bs) : NoNul bs := by
  by_cases hv : v = 0 ∨ 0x10FFFF < v
  · rw [utf8_rejects v hv] at h; contradiction
  · obtain ⟨bs', h1, _, h3⟩ := utf8_roundtrip v (by omega) (by omega)
    cases h1.symm.trans h
    exact fun b hb => (h3 b hb).1

theorem octal_value_bound (acc c : Nat) (hacc : acc < 32) (hc : isOctal c = true) :
    acc * 8 + (c - 48) < 256 := by
  have := octVal_lt hc
  omega

theorem hex_value_bound (acc c : Nat) (hacc : acc < 16) (hc : isHex c = true) :
    acc * 16 + hexVal c < 256 := by
  have := hexVal_lt hc
  omega

def Safe (s : Impl.St) : Prop := NoNul s.cur ∧ ∀ t ∈ s.done, NoNul t

/-- a pending octal / hex accumulator is small enough that the next digit keeps it below 256 -/
def AccOK : AccMode → Nat → Nat → Prop
  | .octal, a, _ => a < 32
  | .hex, a, n => n ≤ 1 ∧ a < 16 ^ n
  | _, _, _ => True

def Inv (s : Impl.St) : Prop := Safe s ∧ AccOK s.mode s.acc s.nAcc

/-- a `break` on a bad escape leaves the accumulator as it is: only `Safe` is claimed then -/
def OutOK : Impl.Out → Prop
  | .cont s => Inv s
  | .stop s => Safe s

theorem AccOK.lt {m : AccMode} {a n : Nat} (h : AccOK m a n) (hm : m ≠ .none) : m = .utf8 ∨ a < 256 := by
  cases m <;> simp only [AccOK, ne_eq, not_true] at h hm
  · omega
  · have := Nat.pow_le_pow_right (n := 16) (by decide) h.1; omega
  · exact .inl rfl

theorem AccOK.push {m : AccMode} {a n c : Nat} (h : AccOK m a n) (hm : m ≠ .none) (hd : m.isDigit c = true) :
    (m = .utf8 ∨ m.push a c < 256) ∧ (¬ m.full (m.push a c) (n + 1) → AccOK m (m.push a c) (n + 1)) := by
  cases m <;> simp only [AccOK, ne_eq, not_true, AccMode.push, AccMode.full] at h hm ⊢
  · exact ⟨.inr (octal_value_bound a c h hd), by omega⟩
  · have hv := hexVal_lt hd
    have := Nat.pow_le_pow_right (n := 16) (by decide) h.1
    refine ⟨.inr (hex_value_bound a c (by omega) hd), fun hf => ?_⟩
    obtain rfl : n = 0 := by omega
    simp at h ⊢; omega
  · exact ⟨.inl trivial, fun _ => trivial⟩

theorem bytes_noNul {m : AccMode} {v : Nat} {bs : List Nat} (h : m.bytes v = some bs)
    (hv : m = .utf8 ∨ v < 256) : NoNul bs := by
  cases m <;> simp only [AccMode.bytes] at h
  case utf8 => exact utf8_noNul h
  all_goals
    split at h <;> cases h
    exact noNul_cons (by simp at hv; rw [Nat.mod_eq_of_lt hv]; omega) nofun

theorem Safe.emits {s : Impl.St} {bs : List Nat} (h : Safe s) (hb : NoNul bs) :
    Inv { Impl.emits s bs with escaped := false, mode := .none } :=
  ⟨⟨List.forall_mem_append.2 ⟨noNul_reverse hb, h.1⟩, h.2⟩, trivial⟩

open Impl in
theorem step_inv {c : Nat} {s : St} {o : Out} (h : Step c s o) (hc : 0 < c) : Inv s → OutOK o := by
  induction h with
  | stop | quoteFull | nondigitErr | fullErr => exact fun h => h.1
  | cont | quote | backslash => exact id
  | start _ _ ih => exact ih
  | endToken => exact fun h => ⟨⟨nofun, List.forall_mem_cons.2 ⟨noNul_reverse h.1.1, h.1.2⟩⟩, h.2⟩
  | byte | escByte => exact fun h => ⟨⟨noNul_cons hc h.1.1, h.1.2⟩, h.2⟩
  | escSimple _ _ hb => exact fun h => ⟨⟨noNul_cons (simpleEscape_pos hb) h.1.1, h.1.2⟩, h.2⟩
  | octal _ _ ho => exact fun h => ⟨h.1, Nat.lt_trans (octVal_lt ho) (by decide)⟩
  | utf8 => exact fun h => ⟨h.1, trivial⟩
  | hex => exact fun h => ⟨h.1, Nat.le_succ 0, Nat.one_pos⟩
  | more _ hm hd hf => exact fun h => ⟨h.1, (h.2.push hm hd).2 hf⟩
  | full _ _ hm hd hb => exact fun h => h.1.emits (bytes_noNul hb (h.2.push hm hd).1)
  | nondigit _ _ hm hb _ ih => exact fun h => ih (h.1.emits (bytes_noNul hb (h.2.lt hm)))

/-- No token `_GD_Tokenise` returns for a NUL-free string contains a NUL byte, whatever escapes the
    string uses and wherever it ends (the completion of a pending escape at its end included). -/
theorem no_nul_in_tokens (v6 : Bool) (want : Nat) (input : List Nat) (h : NoNul input) :
    ∀ t ∈ (Impl.tokenise v6 want input).tokens, NoNul t := by
  obtain ⟨t, -, -, ht, hs⟩ := Impl.tokenise_induct v6 want input (P := fun s _ => Inv s) (Q := fun t _ => Safe t)
    ⟨⟨nofun, nofun⟩, trivial⟩ (fun _ _ c _ hc hi hs => step_inv hs (h c hc) hi) (fun _ _ h => h.1)
    -- the end of the string completes a numeric escape
    (fun s _ bs h _ hm hb => (h.1.emits (bytes_noNul hb (h.2.lt hm))).1)
  rw [ht]
  intro u hu
  rcases Impl.mem_out hu with rfl | h'
  · exact noNul_reverse hs.1
  · exact hs.2 u h'

/-- Same tokens, no error.  `Spec.tokenise` has no limit on the number of tokens; `hw` keeps
    `_GD_Tokenise`'s cut-off at `tok_want` tokens out of reach (a line has fewer tokens than bytes). -/
theorem tokenise_impl_eq_spec_v5 (input : List Nat) (want : Nat) (hw : input.length < want) :
    (GdModel.Token.Impl.tokenise false want input).tokens = (GdModel.Token.Spec.tokenise false input).tokens ∧
    (GdModel.Token.Impl.tokenise false want input).err = none ∧ (GdModel.Token.Spec.tokenise false input).err = none := by
  obtain ⟨h1, h2, h3, h4⟩ := Plain.run_ref want input {} rfl rfl (by simpa using hw)
  unfold Spec.tokenise
  rw [(Plain.spec_ref input).2 [] (input.length + 1) (Nat.le_refl _)]
  unfold Impl.tokenise
  generalize Impl.run false want {} input = r at h1 h2 h3 h4
  obtain ⟨s, rest, b⟩ := r
  simp only at h1 h2 h3 h4
  simp only [h2, h3, h4, Bool.false_eq_true, false_and, if_false, or_self]
  exact ⟨h1, trivial, trivial⟩

example : (GdModel.Token.Impl.tokenise false 9 [97, 92, 32, 34, 98, 35, 99]).tokens = [[97, 92], [34, 98]] := by decide

end GdModel.Props.C08
