/-
  Property C13 — restructuring a dirfile does not change the data it holds.

  At the level of the flat sample array (GdModel.Restructure.Model):

  * `shift_keeps_absolute`   after a frame-offset change with data, every
                             absolute sample number at or after both starts
                             holds exactly the sample it held before;
  * `shift_pads_zero`        moving the start earlier reads zero in the new
                             leading frames (both are readings of `absAt_shift`, which
                             gives every absolute sample after the change);
  * `shift_drops_only_front` moving the start later shortens the array by exactly
                             the samples before the new start;
  * `respf_get` / `respf_length`  the sample-rate recode: new sample j is old
                             sample ⌊j·old/new⌋, and there are ⌊n·new/old⌋ of them;
  * `respf_id`               recoding to the same rate is the identity;
  * `respf_up_down`          up-sampling by an integer factor and recoding back
                             returns the original array;
  * `recode_order`           re-writing the file in another byte order and
                             decoding it gives the same samples (from C04
                             `bare_roundtrip`).

  That derived fields keep their values is an argument outside this file, not a
  theorem: `Spec.sample` of a derived field is a function of the absolute samples
  of its RAW inputs (C01), but no lemma relates `Restructure.absAt` to `Spec.sample`
  (they differ below the frame offset: `none` against the padding value).
-/
import GdModel.Restructure.Model
import GdModel.Props.C04
namespace GdModel.Props.C13
open GdModel.Restructure GdModel.Num GdModel.Bytes

variable {α : Type}

theorem absAt_shift (zero : α) (spf foff foff' : Nat) (xs : List α) (k : Nat) :
    absAt spf foff' (shift zero spf foff foff' xs) k =
      if k < foff' * spf then none else if k < foff * spf then some zero else absAt spf foff xs k := by
  have hm : foff ≤ foff' → foff * spf ≤ foff' * spf := Nat.mul_le_mul_right spf
  have hm' : ¬ foff ≤ foff' → foff' * spf ≤ foff * spf := fun h => Nat.mul_le_mul_right spf (Nat.le_of_not_le h)
  unfold absAt shift
  rw [Nat.sub_mul, Nat.sub_mul]
  generalize foff * spf = a at *
  generalize foff' * spf = b at *
  by_cases h0 : k < b
  · rw [if_pos h0, if_pos h0]
  have hb := Nat.le_of_not_lt h0
  rw [if_neg h0, if_neg h0]
  by_cases h1 : k < a
  · have h : ¬ foff ≤ foff' := fun h => h0 (Nat.lt_of_lt_of_le h1 (hm h))
    have hlt := Nat.sub_lt_sub_right hb h1
    rw [if_pos h1, if_neg h, List.getElem?_append_left (by rwa [List.length_replicate]),
      List.getElem?_replicate, if_pos hlt]
  · have ha := Nat.le_of_not_lt h1
    rw [if_neg h1, if_neg h1]
    by_cases h : foff ≤ foff'
    · rw [if_pos h, List.getElem?_drop, Nat.add_comm, Nat.sub_add_sub_cancel hb (hm h)]
    · rw [if_neg h, List.getElem?_append_right (by rw [List.length_replicate]; exact Nat.sub_le_sub_right ha b),
        List.length_replicate, Nat.sub_sub_sub_cancel_right (hm' h)]

theorem shift_keeps_absolute (zero : α) (spf foff foff' : Nat) (xs : List α) (k : Nat)
    (h1 : foff * spf ≤ k) (h2 : foff' * spf ≤ k) :
    absAt spf foff' (shift zero spf foff foff' xs) k = absAt spf foff xs k := by
  rw [absAt_shift, if_neg (Nat.not_lt.2 h2), if_neg (Nat.not_lt.2 h1)]

theorem shift_pads_zero (zero : α) (spf foff foff' : Nat) (xs : List α) (k : Nat)
    (h1 : foff' * spf ≤ k) (h2 : k < foff * spf) :
    absAt spf foff' (shift zero spf foff foff' xs) k = some zero := by
  rw [absAt_shift, if_neg (Nat.not_lt.2 h1), if_pos h2]

theorem shift_drops_only_front (zero : α) (spf foff foff' : Nat) (xs : List α) (h : foff ≤ foff') :
    (shift zero spf foff foff' xs).length = xs.length - (foff' - foff) * spf := by
  rw [shift, if_pos h, List.length_drop]

theorem getElem?_filterMap {β : Type} (f : β → Option α) : ∀ (l : List β), (∀ a ∈ l, (f a).isSome) →
    ∀ j : Nat, (l.filterMap f)[j]? = l[j]?.bind f
  | [], _, _ => rfl
  | a :: l, h, j => by
    obtain ⟨ha, hl⟩ := List.forall_mem_cons.1 h
    obtain ⟨y, hy⟩ := Option.isSome_iff_exists.1 ha
    rw [List.filterMap_cons_some hy]
    cases j with
    | zero => exact hy.symm
    | succ j => exact getElem?_filterMap f l hl j

theorem respf_index_lt (old new : Nat) (hnew : 0 < new) (hold : 0 < old) (n j : Nat)
    (hj : j < n * new / old) : j * old / new < n := by
  have := (Nat.le_div_iff_mul_le hold).1 hj
  rw [Nat.succ_mul] at this
  exact (Nat.div_lt_iff_lt_mul hnew).2 (Nat.lt_of_lt_of_le (Nat.lt_add_of_pos_right hold) this)

theorem respf_spec (old new : Nat) (hnew : 0 < new) (hold : 0 < old) (xs : List α) :
    (respf old new xs).length = xs.length * new / old ∧
    ∀ j < xs.length * new / old, (respf old new xs)[j]? = xs[j * old / new]? := by
  have h : ∀ j ∈ List.range (xs.length * new / old), (xs[j * old / new]?).isSome := fun j hj => by
    rw [List.getElem?_eq_getElem (respf_index_lt old new hnew hold _ j (List.mem_range.1 hj))]; rfl
  refine ⟨(List.filterMap_length_eq_length.2 h).trans List.length_range, fun j hj => ?_⟩
  rw [respf, getElem?_filterMap _ _ h, List.getElem?_range hj]
  rfl

theorem respf_length (old new : Nat) (hnew : 0 < new) (hold : 0 < old) (xs : List α) :
    (respf old new xs).length = xs.length * new / old :=
  (respf_spec old new hnew hold xs).1

theorem respf_get (old new : Nat) (hnew : 0 < new) (hold : 0 < old) (xs : List α) (j : Nat)
    (hj : j < xs.length * new / old) :
    (respf old new xs)[j]? = xs[j * old / new]? :=
  (respf_spec old new hnew hold xs).2 j hj

theorem respf_eq (old new : Nat) (hnew : 0 < new) (hold : 0 < old) (xs ys : List α)
    (hl : xs.length * new / old = ys.length) (hg : ∀ j < ys.length, xs[j * old / new]? = ys[j]?) :
    respf old new xs = ys := by
  obtain ⟨h1, h2⟩ := respf_spec old new hnew hold xs
  rw [hl] at h1 h2
  apply List.ext_getElem?
  intro j
  by_cases hj : j < ys.length
  · rw [h2 j hj, hg j hj]
  · rw [List.getElem?_eq_none (h1 ▸ Nat.le_of_not_lt hj), List.getElem?_eq_none (Nat.le_of_not_lt hj)]

theorem respf_id (spf : Nat) (h : 0 < spf) (xs : List α) : respf spf spf xs = xs :=
  respf_eq spf spf h h xs xs (Nat.mul_div_cancel _ h) fun j _ => by rw [Nat.mul_div_cancel _ h]

theorem respf_up_down (spf k : Nat) (hs : 0 < spf) (hk : 0 < k) (xs : List α) :
    respf (k * spf) spf (respf spf (k * spf) xs) = xs := by
  have hks : 0 < k * spf := Nat.mul_pos hk hs
  have e1 : ∀ n, n * (k * spf) / spf = n * k := fun n => by rw [← Nat.mul_assoc, Nat.mul_div_cancel _ hs]
  have e2 : ∀ n, n * k * spf / (k * spf) = n := fun n => by rw [Nat.mul_assoc, Nat.mul_div_cancel _ hks]
  obtain ⟨hl, hg⟩ := respf_spec spf (k * spf) hks hs xs
  rw [e1] at hl hg
  refine respf_eq _ _ hs hks _ xs (by rw [hl, e2]) fun j hj => ?_
  rw [e1, hg _ (Nat.mul_lt_mul_of_pos_right hj hk), e2]

theorem recode_order (o o' : Order) (ty : Ty) (xs : List Sample) (hx : ∀ x ∈ xs, GdModel.Props.C04.Fits ty x) :
    decodeSamples o' ty (encodeSamples o' ty xs) = decodeSamples o ty (encodeSamples o ty xs) := by
  rw [C04.bare_roundtrip_whole o ty xs hx, C04.bare_roundtrip_whole o' ty xs hx]

example : shift 0 2 1 3 [1, 2, 3, 4, 5, 6, 7] = [5, 6, 7] := by decide
example : shift 0 2 3 1 [5, 6, 7] = [0, 0, 0, 0, 5, 6, 7] := by decide
example : absAt 2 3 (shift 0 2 1 3 [1, 2, 3, 4, 5, 6, 7]) 7 = absAt 2 1 [1, 2, 3, 4, 5, 6, 7] 7 := by decide
example : respf 2 3 [10, 11, 20, 21] = [10, 10, 11, 20, 20, 21] := by decide
example : respf 3 2 [10, 11, 12, 20, 21, 22] = [10, 11, 20, 21] := by decide

end GdModel.Props.C13
