/-
  Property C11 — read-only handles and /PROTECT levels are never bypassed.

  (1) Source side, regenerated on every run by extract/x5_guards.py:
      `GdModel.Generated.guardTable` lists for each of the 72 public mutators
      the guards the property requires (A access mode, F format protection,
      D data protection) and the guards found reachable in the C source.
      `all_guarded` proves (by kernel evaluation of the generated table) that
      no required guard is missing.
  (2) Rule side: the decision procedure GdModel.Guard.Model.  For every state,
      call and call sequence:
      `rdonly_step`       on a read-only handle a call fails with GD_E_ACCMODE and
                          changes nothing; `rdonly_frozen`: so no call sequence
                          changes the state;
      `protected_refused` a call touching the metadata of a format-protected
                          fragment or the data of a data-protected one fails with
                          GD_E_PROTECTED and changes nothing — also when the
                          protected fragment is not the one the call is addressed to;
      `format_frozen` / `data_frozen`  over any call sequence the
                          metadata version of a format-protected fragment and the
                          data version of a data-protected fragment never change.
-/
import GdModel.Guard.Model
import GdModel.Generated.Guards
namespace GdModel.Props.C11
open GdModel.Guard

def rowOK (r : String × String × String) : Bool := r.2.1.toList.all (fun c => r.2.2.toList.contains c)

theorem all_guarded : GdModel.Generated.guardTable.all rowOK = true := by decide +kernel

theorem table_size : GdModel.Generated.guardTable.length = 72 := by decide

theorem rdonly_step (s : State) (c : Call) (h : s.rdonly = true) : step s c = (s, some .accmode) := by
  simp [step, h]

theorem rdonly_frozen (s : State) (cs : List Call) (h : s.rdonly = true) : run s cs = s := by
  unfold run
  induction cs with
  | nil => rfl
  | cons c rest ih => rw [List.foldl_cons, rdonly_step s c h]; exact ih

theorem protected_refused (s : State) (c : Call) (hrw : s.rdonly = false) (hb : blocked s c = true) :
    step s c = (s, some .protected_) := by
  simp [step, hrw, hb]

theorem bump_length (frags : List Frag) (c : Call) : (bump frags c).length = frags.length := by
  simp [bump]

theorem bump_get (frags : List Frag) (c : Call) (i : Nat) (f : Frag) (h : frags[i]? = some f) :
    (bump frags c)[i]? = some { f with mver := if c.metaFrags.contains i then f.mver + 1 else f.mver,
                                       dver := if c.dataFrags.contains i then f.dver + 1 else f.dver } := by
  rw [bump, List.getElem?_zipWith, h, List.getElem?_range (List.getElem?_eq_some_iff.mp h).1]

theorem not_mem_of_not_blocked {s : State} {c : Call} (hb : blocked s c = false) {i : Nat} {f : Frag}
    (h : s.frags[i]? = some f) :
    (f.prot.fmt = true → i ∉ c.metaFrags) ∧ (f.prot.dat = true → i ∉ c.dataFrags) := by
  simp only [blocked, Bool.or_eq_false_iff, List.any_eq_false] at hb
  exact ⟨fun hf hi => hb.1 i hi (by simp [h, hf]), fun hd hi => hb.2 i hi (by simp [h, hd])⟩

/-- `frozen` for one call.  Protection levels themselves never change: gd_alter_protection is outside this model. -/
theorem step_frozen (s : State) (c : Call) (i : Nat) (f : Frag) (h : s.frags[i]? = some f) :
    ∃ f', (step s c).1.frags[i]? = some f' ∧ f'.prot = f.prot ∧
      (f.prot.fmt = true → f'.mver = f.mver) ∧ (f.prot.dat = true → f'.dver = f.dver) := by
  unfold step
  split
  · exact ⟨f, h, rfl, fun _ => rfl, fun _ => rfl⟩
  split
  · exact ⟨f, h, rfl, fun _ => rfl, fun _ => rfl⟩
  · rename_i hb
    obtain ⟨hm, hd⟩ := not_mem_of_not_blocked (Bool.eq_false_iff.mpr hb) h
    exact ⟨_, bump_get s.frags c i f h, rfl, fun hf => by simp [hm hf], fun hf => by simp [hd hf]⟩

/-- **format / data protection hold over every call sequence** -/
theorem frozen (cs : List Call) (s : State) (i : Nat) (f : Frag) (h : s.frags[i]? = some f) :
    ∃ f', (run s cs).frags[i]? = some f' ∧ f'.prot = f.prot ∧
      (f.prot.fmt = true → f'.mver = f.mver) ∧ (f.prot.dat = true → f'.dver = f.dver) := by
  induction cs generalizing s f with
  | nil => exact ⟨f, h, rfl, fun _ => rfl, fun _ => rfl⟩
  | cons c rest ih =>
    obtain ⟨f1, h1, hp1, hm1, hd1⟩ := step_frozen s c i f h
    obtain ⟨f2, h2, hp2, hm2, hd2⟩ := ih (step s c).1 f1 h1
    rw [hp1] at hp2 hm2 hd2
    exact ⟨f2, h2, hp2, fun hf => (hm2 hf).trans (hm1 hf), fun hd => (hd2 hd).trans (hd1 hd)⟩

theorem format_frozen (cs : List Call) (s : State) (i : Nat) (f : Frag) (h : s.frags[i]? = some f)
    (hf : f.prot.fmt = true) : ∃ f', (run s cs).frags[i]? = some f' ∧ f'.mver = f.mver := by
  obtain ⟨f', h1, _, hm, _⟩ := frozen cs s i f h
  exact ⟨f', h1, hm hf⟩

theorem data_frozen (cs : List Call) (s : State) (i : Nat) (f : Frag) (h : s.frags[i]? = some f)
    (hd : f.prot.dat = true) : ∃ f', (run s cs).frags[i]? = some f' ∧ f'.dver = f.dver := by
  obtain ⟨f', h1, _, _, hdd⟩ := frozen cs s i f h
  exact ⟨f', h1, hdd hd⟩

def ex : State := ⟨false, [⟨.none, 0, 0⟩, ⟨.data, 0, 0⟩, ⟨.format, 0, 0⟩]⟩
-- a move with data from fragment 0 into the data-protected fragment 1 is refused
example : step ex ⟨[0, 1], [0, 1]⟩ = (ex, some .protected_) := by decide
-- a metadata edit of fragment 1 (data protection only) goes through
example : (step ex ⟨[1], []⟩).2 = none := by decide

end GdModel.Props.C11
