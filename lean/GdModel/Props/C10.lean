/-
  Property C10 (part a) — the recursion counter is zero between public calls.

  `rlFuncs` (Generated/RlFlow.lean) is re-extracted from the clang AST of
  every function in src/*.c that updates `D->recurse_level`, on every run.
  * `rl_all_balanced` : the verified checker accepts every one of them
    (kernel evaluation of `Flow.balancedD`, which accepts only what
    `Flow.balancedAt` accepts and does not go through the same outcome twice);
  * `rl_every_execution_balanced` : hence every concrete execution of every
    such function — whatever the branch conditions evaluate to, however often
    loops go round — leaves the counter where it found it, whether it leaves
    by `return` or by falling off the end;
  * `rl_zero_between_calls` : so does any sequence of top-level calls.  The IR
    has no `call`: that a nested call leaves the counter alone rests on the
    extractor's coverage (the callee is itself in `rlFuncs`, or never touches
    the counter — `rl_complete`), not on a theorem;
  * `rl_complete` : every textual update of the counter in src/*.c lies inside
    an analysed function (extractor cross-check, carried as a generated Bool).

  Part (c): the overflow guards on user-supplied ranges reject exactly the
  tuples whose exact sum or product is out of range.
-/
import GdModel.Flow.Dedup
import GdModel.Generated.RlFlow
import GdModel.Generated.SliceGuards

namespace GdModel.Props.C10
open GdModel.Flow GdModel.Generated

theorem rl_complete : rlComplete = true := by decide

theorem rl_all_balanced : (rlFuncs.all fun p => balancedAt p.2 0) = true := by
  have h : (rlFuncs.all fun p => balancedD p.2 0) = true := by decide +kernel
  exact List.all_eq_true.mpr fun p hp => balancedAt_of_balancedD (List.all_eq_true.mp h p hp)

theorem rl_every_execution_balanced (name : String) (s : Stmt) (hmem : (name, s) ∈ rlFuncs)
    (v : Int) (k : Kind) (v' : Int) (h : Exec s v k v') : v' = v ∧ (k = .returned ∨ k = .normal) :=
  balanced_sound s (List.all_eq_true.mp rl_all_balanced _ hmem) v k v' h

/-- a history: a list of top-level executions of analysed functions -/
inductive History : Int → Int → Prop where
  | nil (v) : History v v
  | call {name s v k v1 v2} : (name, s) ∈ rlFuncs → Exec s v k v1 → History v1 v2 → History v v2

theorem rl_zero_between_calls {v v' : Int} (h : History v v') : v' = v := by
  induction h with
  | nil v => rfl
  | call hm he _ ih => rw [ih, (rl_every_execution_balanced _ _ hm _ _ _ he).1]

/-- the checker really rejects an unbalanced exit: `if (c) return; … dec; return`
    after an `inc` (the shape of the five leaks repaired in 37dfc1a) -/
example : balancedAt (.seq .inc (.seq (.choice .ret .skip) (.seq .dec .ret))) 0 = false := by decide
example : balancedAt (.seq .inc (.seq (.choice (.seq .dec .ret) .skip) (.seq .dec .ret))) 0 = true := by decide

/-- `gd_get_carray_slice` & friends after 13b3e1e: `n > len || start > len - n`
    (unsigned arithmetic, no wrap possible in `len - n` once `n ≤ len`) rejects
    exactly `start + n > len`. -/
theorem slice_guard_exact (start n len : Nat) :
    (n > len ∨ start > len - n) ↔ start + n > len := by omega

/-- the four slice accessors of the current source (re-extracted on every run by
    extract/x3_sliceguards.py) all use the form that `slice_guard_exact` is about -/
theorem slice_guards_in_source_are_safe :
    sliceGuards.map (·.1) = ["gd_get_carray_slice", "gd_put_carray_slice", "gd_get_sarray_slice", "gd_put_sarray_slice"] ∧
    sliceGuards.all (fun g => g.2 == GuardShape.safe) = true := ⟨rfl, rfl⟩

/-- the pre-repair form `start + n > len` evaluated modulo 2^64 accepts
    out-of-range slices: witness start = 2, n = 2^64 − 1, len = 4. -/
theorem slice_guard_wrapping_counterexample :
    ¬ ((2 + (2 ^ 64 - 1)) % 2 ^ 64 > 4) ∧ 2 + (2 ^ 64 - 1) > 4 := by decide

/-- `_GD_DoField` / `_GD_DoFieldOut`: `first_samp > INT64_MAX - num_samp`
    (num_samp already clamped to ≤ INT64_MAX, so the right side cannot wrap)
    rejects exactly `first_samp + num_samp > INT64_MAX`. -/
theorem range_guard_exact (first : Int) (num : Nat) (hnum : (num : Int) ≤ 2 ^ 63 - 1) :
    (first > (2 ^ 63 - 1 : Int) - num) ↔ first + num > (2 ^ 63 - 1 : Int) := by omega

/-- `_GD_DoRawOut` / `_GD_DoSeek`: `s0 > INT64_MAX / size` (sample size > 0) rejects
    exactly the positions whose byte offset `s0 * size` does not fit in an int64 —
    tested, since fix 5.82, before the field is opened for writing. -/
theorem offset_guard_exact (s0 size : Nat) (hs : 0 < size) :
    (s0 > (2 ^ 63 - 1) / size) ↔ s0 * size > 2 ^ 63 - 1 :=
  Nat.div_lt_iff_lt_mul hs

end GdModel.Props.C10
