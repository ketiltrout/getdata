/-
  Property C19 — gd_framenum inverts any monotonic field.

  Model: GdModel.Index.Model, a transcription of `_GD_GetIndex` /
  `_GD_Extrapolate` (src/index.c).  The theorems instantiate it with exact
  integer samples (`lt` = `<`, `eq` = `=`) and hold for EVERY field content,
  range and value, with no bound on the length of the field:

  * `bisect_good`        step 2, the bisection between two known samples;
  * `getIndex_known_end` the whole look-up when the sample at field_end-1 exists;
  * `bracket_inverts`    what a bracket answer means for the caller;
  * `search_good`        the whole look-up when the end of the field is not known
                         in advance, from `search_inv`;
  * `limits_default`, `limits_empty`  the range gd_framenum_subset searches.

  The direction of the field enters the proofs only through the order
  `ordLt dir` / `ordLe dir` and the five facts about it stated first; the two
  loops share one probe step (`probe`) and one fact about the midpoint
  (`mid_facts`).
-/
import GdModel.Index.Model
namespace GdModel.Props.C19
open GdModel.Index

abbrev ilt (a b : Int) : Bool := decide (a < b)
abbrev ieq (a b : Int) : Bool := decide (a = b)

/-- `a` strictly before `b` in the direction of the field (dir = true: descending) -/
def ordLt (dir : Bool) (a b : Int) : Prop := if dir then b < a else a < b
def ordLe (dir : Bool) (a b : Int) : Prop := if dir then b ≤ a else a ≤ b

theorem ordLe_iff {dir : Bool} {a b : Int} : ordLe dir a b ↔ ¬ ordLt dir b a := by
  cases dir <;> simp [ordLt, ordLe]

theorem ordLt_le {dir : Bool} {a b : Int} (h : ordLt dir a b) : ordLe dir a b := by
  cases dir <;> simp [ordLt, ordLe] at * <;> omega

theorem ord_eq {dir : Bool} {a b : Int} (h1 : ¬ ordLt dir b a) (h2 : ¬ ordLt dir a b) : a = b := by
  cases dir <;> simp [ordLt] at * <;> omega

theorem ordLt_trans {dir : Bool} {a b c : Int} (h1 : ordLt dir a b) (h2 : ordLt dir b c) : ordLt dir a c := by
  cases dir <;> simp [ordLt] at * <;> omega

/-- how the C finds the direction: two distinct samples in field order, compared with `<` -/
theorem ordLt_iff_dir {dir : Bool} {a b : Int} : ordLt dir a b ↔ a ≠ b ∧ ilt b a = dir := by
  cases dir <;> simp [ordLt] <;> omega

theorem beyond_iff {dir : Bool} {a b : Int} : beyond ilt dir a b = true ↔ ordLt dir b a := by
  cases dir <;> simp [beyond, ordLt]

theorem short_iff {dir : Bool} {a b : Int} : short ilt dir a b = true ↔ ordLt dir a b := by
  cases dir <;> simp [short, ordLt]

/-- the three-way test both loops make on the sample `cv` read at the midpoint -/
theorem probe {P : Out Int → Prop} {dir : Bool} {cv v : Int} {x y z : Out Int}
    (hx : ordLt dir v cv → P x) (hy : ordLt dir cv v → P y) (hz : cv = v → P z) :
    P (if beyond ilt dir cv v = true then x else if short ilt dir cv v = true then y else z) := by
  by_cases hb : ordLt dir v cv
  · rw [if_pos (beyond_iff.2 hb)]; exact hx hb
  · rw [if_neg (mt beyond_iff.1 hb)]
    by_cases hs : ordLt dir cv v
    · rw [if_pos (short_iff.2 hs)]; exact hy hs
    · rw [if_neg (mt short_iff.1 hs)]; exact hz (ord_eq hb hs)

/-- the midpoint lies strictly inside, so both halves are shorter and the fuel left covers them -/
theorem mid_facts {low high : Int} {fuel : Nat} (hf : (high - low).toNat ≤ fuel + 1) (hgap : 1 < high - low) :
    low < (high + low) / 2 ∧ (high + low) / 2 < high ∧
    ((high + low) / 2 - low).toNat ≤ fuel ∧ (high - (high + low) / 2).toNat ≤ fuel := by
  omega

/-- the default limits are the frame offset and gd_nframes -/
theorem limits_default (spf foff nframes : Int) (h : 2 ≤ (nframes + 1) * spf - 1 - foff * spf) :
    limits spf foff nframes 0 0 = some (foff * spf, (nframes + 1) * spf - 1) := by
  unfold limits
  simp only [if_true]
  rw [if_neg (by omega)]

/-- an empty range is refused (GD_E_DOMAIN) -/
theorem limits_empty (spf foff nframes s e : Int)
    (h : (if e = 0 then (nframes + 1) * spf - 1 else (e + 1) * spf - 1) - (if s = 0 then foff * spf else s * spf) < 2) :
    limits spf foff nframes s e = none := by
  unfold limits
  simp only
  rw [if_pos h]

/-- adjacent bracket around the value, made of the true samples -/
def Bracket (get : Int → Option Int) (value : Int) (dir : Bool) (low lv hv : Int) : Prop :=
  get low = some lv ∧ get (low + 1) = some hv ∧ ordLe dir lv value ∧ ordLt dir value hv

def GoodB (get : Int → Option Int) (value : Int) (dir : Bool) : Out Int → Prop
  | .hit c => get c = some value
  | .interp low lv hv => Bracket get value dir low lv hv
  | _ => False

/-- **Bisection** (step 2 of `_GD_GetIndex`): for any data defined on the
    range, from any state satisfying the loop invariant, the loop ends within
    `high - low` iterations on a sample equal to the value or on an adjacent
    bracket data[low] ≤ v < data[low+1] (reversed for a descending field).
    `highV` is the sample at `high`, except at the start, where `high` is
    field_end and `highV` the sample at field_end - 1. -/
theorem bisect_good (get : Int → Option Int) (value : Int) (dir : Bool) (fe : Int) :
    ∀ (fuel : Nat) (low high lowV highV : Int),
      (high - low).toNat ≤ fuel → low < high → high ≤ fe →
      (∀ i, low ≤ i → i < fe → ∃ x, get i = some x) →
      get low = some lowV → ordLe dir lowV value →
      (high < fe → get high = some highV ∧ ordLt dir value highV) →
      (high = fe → low + 1 < fe ∧ get (fe - 1) = some highV ∧ ordLe dir value highV) →
      GoodB get value dir (bisect ilt get value dir fuel low high lowV highV) := by
  intro fuel
  induction fuel with
  | zero => intro low high lowV highV hf hlt; omega
  | succ fuel ih =>
    intro low high lowV highV hf hlt hhi hdef hlow hle hin hend
    unfold bisect
    by_cases hgap : high - low > 1
    · rw [if_pos hgap]
      obtain ⟨hc1, hc2, hf1, hf2⟩ := mid_facts hf hgap
      generalize (high + low) / 2 = c at hc1 hc2 hf1 hf2 ⊢
      obtain ⟨cv, hcv⟩ := hdef c (Int.le_of_lt hc1) (Int.lt_of_lt_of_le hc2 hhi)
      simp only [hcv]
      refine probe (fun hb => ?_) (fun hs => ?_) (fun he => he ▸ hcv)
      -- left half: `cv` is the new `highV`, and c < fe, so the clause for high = fe is void
      · exact ih low c lowV cv hf1 hc1 (Int.le_of_lt (Int.lt_of_lt_of_le hc2 hhi)) hdef hlow hle
          (fun _ => ⟨hcv, hb⟩) (fun h => by omega)
      -- right half: `cv` is the new `lowV`; what is left to show is c + 1 < fe when high = fe
      · refine ih c high cv highV hf2 hc2 hhi (fun i hi => hdef i (Int.le_trans (Int.le_of_lt hc1) hi)) hcv (ordLt_le hs) hin
          (fun h => ?_)
        obtain ⟨_, h2, h3⟩ := hend h
        have : c ≠ fe - 1 := fun hce => by
          rw [hce, h2] at hcv
          cases hcv
          exact ordLe_iff.1 h3 hs
        exact ⟨by omega, h2, h3⟩
    · rw [if_neg hgap]
      have hh : high = low + 1 := by omega
      show Bracket get value dir low lowV highV
      by_cases hfe : high < fe
      · exact ⟨hlow, hh ▸ (hin hfe).1, hle, (hin hfe).2⟩
      · have := (hend (by omega)).1
        omega

/-- A bracket answer is `low + (v - lv)/(hv - lv)`.  Stated over the integers
    without division: with num = v - lv and den = hv - lv,
    the denominator is non-zero and of the field's sign, 0 ≤ num/den < 1, the
    interpolation lv + (hv - lv) * num/den is v (cross-multiplied), and the
    fraction is 0 exactly when v is sample `low`. -/
theorem bracket_inverts (get : Int → Option Int) (value : Int) (dir : Bool) (low lv hv : Int)
    (h : Bracket get value dir low lv hv) :
    let num := value - lv
    let den := hv - lv
    den ≠ 0 ∧ (if dir then den < num ∧ num ≤ 0 else 0 ≤ num ∧ num < den) ∧
    lv * den + (hv - lv) * num = value * den ∧ (num = 0 ↔ get low = some value) := by
  obtain ⟨h1, h2, h3, h4⟩ := h
  refine ⟨?_, ?_, ?_, ?_⟩
  · cases dir <;> simp [ordLt, ordLe] at h3 h4 <;> omega
  · cases dir <;> simp [ordLt, ordLe] at h3 h4 ⊢ <;> omega
  · rw [Int.mul_comm lv, ← Int.mul_add, Int.mul_comm]
    congr 1
    omega
  · rw [h1, Option.some_inj]
    omega

def GoodExtrap (get : Int → Option Int) (value : Int) (dir : Bool) (fs fe : Int) : Out Int → Prop
  | .extrap limit false d0 d1 => limit = fs ∧ get fs = some d0 ∧ get (fs + 1) = some d1 ∧ ordLt dir value d0
  | .extrap limit true d0 d1 => limit = fe - 1 ∧ get (fe - 2) = some d0 ∧ get (fe - 1) = some d1 ∧ ordLt dir d1 value
  | _ => False

theorem extrap_first {get : Int → Option Int} {value : Int} {dir : Bool} {fs fe d0 d1 : Int}
    (h0 : get fs = some d0) (h1 : get (fs + 1) = some d1) (hv : ordLt dir value d0) :
    GoodExtrap get value dir fs fe (extrapolate get fs false) := by
  unfold extrapolate
  simp only [Bool.false_eq_true, if_false, h0, h1]
  exact ⟨rfl, h0, h1, hv⟩

theorem extrap_last {get : Int → Option Int} {value : Int} {dir : Bool} {fs fe d0 d1 : Int}
    (h0 : get (fe - 2) = some d0) (h1 : get (fe - 1) = some d1) (hv : ordLt dir d1 value) :
    GoodExtrap get value dir fs fe (extrapolate get (fe - 1) true) := by
  unfold extrapolate
  have e1 : fe - 1 - 1 = fe - 2 := by omega
  have e2 : fe - 2 + 1 = fe - 1 := by omega
  simp only [if_true, e1, e2, h0, h1]
  exact ⟨rfl, h0, h1, hv⟩

/-- **known end**: all samples of [fs, fe-1] exist.  The look-up returns
    GD_E_RANGE iff the end points agree; otherwise the direction is that of
    the end points, a value before the first / after the last sample is
    extrapolated from the first / last two samples, and a value inside gives a
    hit or an adjacent bracket.  Never a hang, never GD_E_DOMAIN. -/
theorem getIndex_known_end (get : Int → Option Int) (value : Int) (fs fe : Int) (fuel : Nat)
    (hrange : 2 ≤ fe - fs) (hfuel : (fe - fs).toNat ≤ fuel)
    (hdef : ∀ i, fs ≤ i → i < fe → ∃ x, get i = some x) :
    ∃ a b, get fs = some a ∧ get (fe - 1) = some b ∧
      (a = b → getIndex ilt ieq get value fuel fs fe = .errRange) ∧
      (a ≠ b →
        let dir := decide (b < a)
        let r := getIndex ilt ieq get value fuel fs fe
        (ordLt dir value a → GoodExtrap get value dir fs fe r) ∧
        (ordLt dir b value → GoodExtrap get value dir fs fe r) ∧
        (ordLe dir a value → ordLe dir value b → GoodB get value dir r)) := by
  obtain ⟨a, ha⟩ := hdef fs (by omega) (by omega)
  obtain ⟨b, hb⟩ := hdef (fe - 1) (by omega) (by omega)
  refine ⟨a, b, ha, hb, ?_⟩
  unfold getIndex
  simp only [ha, hb, decide_eq_true_eq]
  refine ⟨fun hab => if_pos hab.symm, fun hab => ?_⟩
  rw [if_neg (Ne.symm hab)]
  have hdir : ordLt (decide (b < a)) a b := ordLt_iff_dir.2 ⟨hab, rfl⟩
  refine ⟨fun hv => ?_, fun hv => ?_, fun h1 h2 => ?_⟩
  · rw [if_pos (beyond_iff.2 hv)]
    obtain ⟨d1, hd1⟩ := hdef (fs + 1) (by omega) (by omega)
    exact extrap_first ha hd1 hv
  · rw [if_neg (mt beyond_iff.1 (ordLe_iff.1 (ordLt_le (ordLt_trans hdir hv)))), if_pos (short_iff.2 hv)]
    obtain ⟨d0, hd0⟩ := hdef (fe - 2) (by omega) (by omega)
    exact extrap_last hd0 hb hv
  · rw [if_neg (mt beyond_iff.1 (ordLe_iff.1 h1)), if_neg (mt short_iff.1 (ordLe_iff.1 h2))]
    exact bisect_good get value _ fe fuel fs fe a b hfuel (by omega) (Int.le_refl _) hdef ha h1
      (fun h => absurd h (Int.lt_irrefl _)) (fun _ => ⟨by omega, hb, h2⟩)

def GoodS (get : Int → Option Int) (value : Int) (dir : Bool) (fs eof : Int) : Out Int → Prop
  | .hit c => get c = some value
  | .interp low lv hv => Bracket get value dir low lv hv
  | .extrap limit false d0 d1 => limit = fs ∧ get fs = some d0 ∧ get (fs + 1) = some d1 ∧ ordLt dir value d0
  | .extrap limit true d0 d1 => limit = eof - 1 ∧ get (eof - 2) = some d0 ∧ get (eof - 1) = some d1 ∧ ordLt dir d1 value
  | _ => False

theorem goodS_iff {get : Int → Option Int} {value : Int} {dir : Bool} {fs eof : Int} {r : Out Int} :
    GoodS get value dir fs eof r ↔ GoodB get value dir r ∨ GoodExtrap get value dir fs eof r := by
  cases r with
  | extrap limit e d0 d1 => cases e <;> simp [GoodB, GoodS, GoodExtrap]
  | _ => simp [GoodB, GoodS, GoodExtrap]

/-- the situation of the end-of-field search: samples exist exactly on
    [fs, eof), at least two of them, strictly monotonic in direction `d` -/
structure Field (get : Int → Option Int) (d : Bool) (fs eof fe : Int) : Prop where
  two : fs + 2 ≤ eof
  inside : eof ≤ fe
  defined : ∀ i, fs ≤ i → i < eof → ∃ x, get i = some x
  missing : ∀ i, eof ≤ i → i ≤ fe → get i = none
  mono : ∀ i j x y, fs ≤ i → i < j → j < eof → get i = some x → get j = some y → ordLt d x y

theorem Field.lt_eof {get : Int → Option Int} {d : Bool} {fs eof fe c cv : Int} (F : Field get d fs eof fe)
    (hc : c ≤ fe) (h : get c = some cv) : c < eof :=
  Int.not_le.1 fun hle => by rw [F.missing c hle hc] at h; cases h

theorem Field.eof_le {get : Int → Option Int} {d : Bool} {fs eof fe c : Int} (F : Field get d fs eof fe)
    (hc : fs ≤ c) (h : get c = none) : eof ≤ c :=
  Int.not_lt.1 fun hlt => by obtain ⟨x, hx⟩ := F.defined c hc hlt; rw [hx] at h; cases h

/-- **Search invariant**: from any state the end-of-field search of
    `_GD_GetIndex` can be in, it terminates with a correct answer. -/
theorem search_inv (get : Int → Option Int) (value : Int) (d : Bool) (fs eof fe a : Int)
    (F : Field get d fs eof fe) (ha : get fs = some a) :
    ∀ (fuel : Nat) (dir : Option Bool) (low high lowV : Int),
      (high - low).toNat ≤ fuel → fs ≤ low → low < eof → eof ≤ high → high ≤ fe →
      get low = some lowV →
      (dir = none → low = fs) →
      (∀ d', dir = some d' → d' = d ∧ ordLe d a value) →
      (fs < low → ordLt d lowV value) →
      GoodS get value d fs eof (search ilt ieq get value fs a fuel dir low high lowV) := by
  intro fuel
  induction fuel with
  | zero => intro dir low high lowV hf h1 h2 h3; omega
  | succ fuel ih =>
    intro dir low high lowV hf hfs hlo heof hhi hlow hnone hsome hbeyond
    have htwo := F.two
    -- reaching the end of the field
    have ateof : low = eof - 1 →
        GoodS get value d fs eof
          (if low = fs then Out.errDomain else if dir = none then Out.errRange else extrapolate get low true) := by
      intro hl
      have hfl : fs < low := by omega
      rw [if_neg (Int.ne_of_gt hfl), if_neg (fun h => Int.ne_of_gt hfl (hnone h))]
      obtain ⟨d0, hd0⟩ := F.defined (eof - 2) (by omega) (by omega)
      subst hl
      exact goodS_iff.2 (.inr (extrap_last hd0 hlow (hbeyond hfl)))
    unfold search
    -- (`split` is slow on a goal of this size: the conditions are decided by hand)
    by_cases hgap : high - low ≤ 1
    · rw [if_pos hgap]
      exact ateof (by omega)
    · rw [if_neg hgap]
      obtain ⟨hc1, hc2, hf1, hf2⟩ := mid_facts hf (Int.not_le.1 hgap)
      generalize (high + low) / 2 = c at hc1 hc2 hf1 hf2 ⊢
      have hfc : fs ≤ c := Int.le_trans hfs (Int.le_of_lt hc1)
      have hcfe : c ≤ fe := Int.le_of_lt (Int.lt_of_lt_of_le hc2 hhi)
      cases hgc : get c with
      | none =>
        have hce := F.eof_le hfc hgc
        simp only [hgc]
        by_cases h1 : c - low = 1
        · rw [if_pos h1]
          exact ateof (by omega)
        · rw [if_neg h1]
          exact ih dir low c lowV hf1 hfs hlo hce hcfe hlow hnone hsome hbeyond
      | some cv =>
        have hceof := F.lt_eof hcfe hgc
        simp only [hgc]
        -- what happens once the direction is known
        have known : ordLe d a value → GoodS get value d fs eof
            (if beyond ilt d cv value = true then bisect ilt get value d fuel low c lowV cv
             else if short ilt d cv value = true then search ilt ieq get value fs a fuel (some d) c high cv
             else Out.hit c) := by
          intro hav
          have hle : ordLe d lowV value := by
            by_cases h : fs < low
            · exact ordLt_le (hbeyond h)
            · obtain rfl : low = fs := Int.le_antisymm (Int.not_lt.1 h) hfs
              rw [ha] at hlow; cases hlow; exact hav
          refine probe (fun hb => ?_) (fun hs => ?_) (fun he => he ▸ hgc)
          -- `bisect_good` with fe := eof, in the order of its hypotheses: fuel; low < c ≤ eof; samples on
          -- [low, eof); lowV ≤ value < cv at `low`, `c`; the clause for high = fe is void (c < eof)
          · exact goodS_iff.2 (.inl (bisect_good get value d eof fuel low c lowV cv hf1 hc1 (Int.le_of_lt hceof)
              (fun i hi => F.defined i (Int.le_trans hfs hi)) hlow hle (fun _ => ⟨hgc, hb⟩) (fun h => by omega)))
          -- the search goes on from `c`: fuel; fs ≤ c < eof ≤ high ≤ fe; sample `c`; the direction is
          -- known and a ≤ value; cv < value
          · exact ih (some d) c high cv hf2 hfc hceof heof hhi hgc (fun h => by cases h)
              (fun d' hd' => by cases hd'; exact ⟨rfl, hav⟩) (fun _ => hs)
        cases dir with
        | some d' =>
          obtain ⟨rfl, hav⟩ := hsome d' rfl
          exact known hav
        | none =>
          obtain rfl := hnone rfl
          rw [ha] at hlow; cases hlow
          obtain ⟨hne, hdd⟩ := ordLt_iff_dir.1 (F.mono low c a cv (Int.le_refl _) hc1 hceof ha hgc)
          simp only [decide_eq_true_eq, if_neg (Ne.symm hne), hdd]
          by_cases hb : ordLt d value a
          · rw [if_pos (beyond_iff.2 hb)]
            obtain ⟨d1, hd1⟩ := F.defined (low + 1) (by omega) (by omega)
            exact goodS_iff.2 (.inr (extrap_first ha hd1 hb))
          · rw [if_neg (mt beyond_iff.1 hb)]
            exact known (ordLe_iff.2 hb)

/-- **End of field unknown**: the look-up on a strictly monotonic field with
    at least two samples whose end lies before `field_end - 1` (the default
    limits with spf ≥ 2, or an explicit end past the end of field).  The
    answer is a hit, an adjacent bracket, the extrapolation from the first two
    samples (value before the first) or from the LAST two existing samples
    (value beyond the last) — never a hang, an error or a division by zero. -/
theorem search_good (get : Int → Option Int) (value : Int) (d : Bool) (fs eof fe : Int) (fuel : Nat)
    (F : Field get d fs eof fe) (hend : eof ≤ fe - 1) (hfuel : (fe - fs).toNat ≤ fuel) :
    GoodS get value d fs eof (getIndex ilt ieq get value fuel fs fe) := by
  have htwo := F.two
  obtain ⟨a, ha⟩ := F.defined fs (Int.le_refl _) (by omega)
  unfold getIndex
  simp only [ha, F.missing (fe - 1) hend (by omega)]
  exact search_inv get value d fs eof fe a F ha fuel none fs fe a hfuel (Int.le_refl _)
    (by omega) F.inside (Int.le_refl _) ha (fun _ => rfl) (fun d' h => by cases h)
    (fun h => absurd h (Int.lt_irrefl _))

def exGet (i : Int) : Option Int :=
  if 0 ≤ i ∧ i < 6 then some ([10, 13, 20, 21, 30, 44].getD i.toNat 0) else none

example : getIndex ilt ieq exGet 20 100 0 6 = .hit 2 := by decide
example : getIndex ilt ieq exGet 25 100 0 6 = .interp 3 21 30 := by decide
example : getIndex ilt ieq exGet 5 100 0 6 = .extrap 0 false 10 13 := by decide
example : getIndex ilt ieq exGet 50 100 0 6 = .extrap 5 true 30 44 := by decide
-- end of field unknown (field_end far past the end): same answers
example : getIndex ilt ieq exGet 20 100 0 40 = .hit 2 := by decide
example : getIndex ilt ieq exGet 25 100 0 40 = .interp 3 21 30 := by decide
example : getIndex ilt ieq exGet 50 100 0 40 = .extrap 5 true 30 44 := by decide
example : getIndex ilt ieq (fun i => if 0 ≤ i ∧ i < 6 then some 7 else none) 7 100 0 40 = .errRange := by decide
-- the hypotheses of `search_good` are satisfiable
example : Field exGet false 0 6 40 where
  two := by decide
  inside := by decide
  defined := by intro i h1 h2; unfold exGet; rw [if_pos ⟨h1, h2⟩]; exact ⟨_, rfl⟩
  missing := by intro i h1 h2; unfold exGet; rw [if_neg (by omega)]
  mono := by
    intro i j x y h1 h2 h3 hx hy
    have inc : ∀ n : Nat, n < 6 → ∀ m : Nat, m < n → (exGet m).getD 0 < (exGet n).getD 0 := by decide
    have := inc j.toNat (by omega) i.toNat (by omega)
    rwa [Int.toNat_of_nonneg h1, Int.toNat_of_nonneg (by omega), hx, hy] at this

end GdModel.Props.C19
