/-
  Property C18 — a dirfile being appended to can be read concurrently and consistently.

  What a reader computes from the bytes it finds (src/raw.c `_GD_RawSize`,
  src/nframes.c): the file holds ⌊bytes / GD_SIZE⌋ whole samples, the dirfile
  has  frame_offset + ⌊samples / spf⌋  frames, and a read returns the samples
  decoded from the whole-sample prefix.  A writer only ever appends bytes to
  an in-place file (unencoded, text, sie) or publishes a complete longer file
  by rename (gzip, bzip2, lzma: the C12/C14 protocol).  Proved for every
  content, every way the appended bytes are cut into writes, every moment:

  * `nframes_mono`       if the file a reader sees later is an extension of the file
                         it saw earlier, gd_nframes does not decrease;
  * `partial_invisible_count`, `partial_invisible`  bytes of an incomplete trailing
                         sample change neither the frame count nor any sample returned;
  * `reader_sees_writer` at any moment during an append, every sample the reader
                         can get is exactly the sample the writer wrote at that position
                         (decoding the prefix of the writer's byte stream);
  * `reader_prefix`      after any completed append the reader's samples are a prefix
                         of what it will read after later appends;
  * `replace_mono`       with publication by rename the reader sees the old or the new
                         complete file, and the new one extends the old: same conclusion.
-/
import GdModel.Props.C04
import GdModel.Props.C12
namespace GdModel.Props.C18
open GdModel.Num GdModel.Bytes GdModel.Codec.Disk GdModel.Props.C04

/-- gd_nframes of the reference field from the bytes of its data file -/
def nframes (ty : Ty) (spf foff : Nat) (bytes : List Nat) : Nat := foff + (bytes.length / ty.size) / spf

theorem nframes_mono (ty : Ty) (spf foff : Nat) (b1 ext : List Nat) :
    nframes ty spf foff b1 ≤ nframes ty spf foff (b1 ++ ext) := by
  unfold nframes
  rw [List.length_append]
  exact Nat.add_le_add_left (Nat.div_le_div_right (Nat.div_le_div_right (Nat.le_add_right ..))) _

theorem partial_invisible_count (ty : Ty) (spf foff : Nat) (o : Order) (xs : List Sample) (tail : List Nat)
    (ht : tail.length < ty.size) :
    nframes ty spf foff (encodeSamples o ty xs ++ tail) = nframes ty spf foff (encodeSamples o ty xs) := by
  unfold nframes
  rw [List.length_append, bare_length]
  have hs := size_pos ty
  congr 2
  rw [Nat.mul_comm, Nat.mul_add_div hs, Nat.div_eq_of_lt ht, Nat.add_zero, Nat.mul_div_cancel_left _ hs]

theorem partial_invisible (o : Order) (ty : Ty) (xs : List Sample) (tail : List Nat)
    (hx : ∀ x ∈ xs, Fits ty x) (ht : tail.length < ty.size) :
    decodeSamples o ty (encodeSamples o ty xs ++ tail) = xs :=
  bare_roundtrip o ty xs tail hx ht

/-- the writer has written the samples `done` and the first `cut` bytes of sample `next`:
    the reader gets exactly `done` -/
theorem reader_sees_writer (o : Order) (ty : Ty) (done : List Sample) (next : Sample) (cut : Nat)
    (hx : ∀ x ∈ done, Fits ty x) (hc : cut < ty.size) :
    decodeSamples o ty (encodeSamples o ty done ++ (encodeSample o ty next).take cut) = done :=
  bare_roundtrip o ty done _ hx (Nat.lt_of_le_of_lt (List.length_take_le ..) hc)

theorem reader_prefix (o : Order) (ty : Ty) (a b : List Sample)
    (hx : ∀ x ∈ a ++ b, Fits ty x) :
    decodeSamples o ty (encodeSamples o ty a) = (decodeSamples o ty (encodeSamples o ty (a ++ b))).take a.length := by
  rw [bare_roundtrip_whole o ty a fun x h => hx x (List.mem_append_left _ h),
    bare_roundtrip_whole o ty (a ++ b) hx, List.take_left]

theorem replace_mono (ty : Ty) (spf foff : Nat) (fs : GdModel.Replace.FS) (tmp target : String)
    (old ext : List Nat) (chunks : List (List Nat)) (k : Nat)
    (hne : target ≠ tmp) (hold : fs.read target = some old) (hnew : chunks.flatten = old ++ ext) :
    ∃ seen, (GdModel.Replace.crashAt fs tmp target chunks k).read target = some seen ∧
      nframes ty spf foff old ≤ nframes ty spf foff seen ∧ (seen = old ∨ seen = old ++ ext) := by
  have h := GdModel.Props.C12.crash_old_or_new fs tmp target chunks k hne
  -- `k` counts the calls of the C12 protocol carried out before the kill: create, one write per
  -- chunk, chmod, close, rename; fewer than `chunks.length + 4` means the rename has not happened
  by_cases hk : k < chunks.length + 4
  · rw [if_pos hk] at h
    exact ⟨old, by rw [h, hold], Nat.le_refl _, Or.inl rfl⟩
  · rw [if_neg hk] at h
    exact ⟨old ++ ext, by rw [h, hnew], nframes_mono ty spf foff old ext, Or.inr rfl⟩

example : nframes .u16 2 1 [1, 0, 2, 0, 3, 0, 4] = 2 := by decide
example : decodeSamples ⟨false, false⟩ .u16 (encodeSamples ⟨false, false⟩ .u16 [⟨1, 0⟩, ⟨2, 0⟩] ++ [7]) = [⟨1, 0⟩, ⟨2, 0⟩] := by decide

end GdModel.Props.C18
