/-
  Property C02 — a read is a pure function of the database contents.

  * `window_split_independent` : the value reported for absolute sample k is
    the same in every (aligned) window that contains it — alone, inside a
    larger window, in a differently split window: both are `Spec.sample f k`,
    which has no history argument.  (Corollary of the refinement theorem.)
  * `seek_read_pure`, `history_pure` : the forward-only decompression-window
    reader of the bzip2 codec (and, same shape, lzma) returns bytes k…k+n of the
    decompressed stream after ANY earlier sequence of seeks and reads — by the
    invariant `Win.Inv` preserved by every operation, lifted to arbitrary
    operation lists by induction.  The two bzip2 defects repaired in b921d8f /
    071d1f8 each broke one step of it: a backward seek that did not restart the
    stream is `Win.seek` without its `k < w.base` branch, and an end-of-stream
    read that did not update the position returns a state with
    `filePos ≠ base + pos`, so that `Win.Inv` fails for the next call.
  Not modelled in Lean: the MPLEX last-sample cache, the auto-close LRU list,
  scalar-client invalidation (exercised by the history stream against the
  library's own fresh-handle answer).
-/
import GdModel.Field.ReadSpec
import GdModel.Codec.WindowLemmas

namespace GdModel.Props.C02
open GdModel.Field GdModel.Codec

variable {α : Type}

theorem window_split_independent (junk : α) (f : Fld α) (hwf : f.WF = true)
    (s1 s2 : Int) (n1 n2 : Nat) (h1 : Aligned f s1 = true) (h2 : Aligned f s2 = true)
    (i1 i2 : Nat) (hi1 : i1 < count (Spec.eof f) s1 n1) (hi2 : i2 < count (Spec.eof f) s2 n2)
    (hk : s1 + i1 = s2 + i2) :
    (Impl.read junk f s1 n1)[i1]? = (Impl.read junk f s2 n2)[i2]? := by
  rw [(read_spec junk f hwf s1 n1 h1).2 i1 hi1, (read_spec junk f hwf s2 n2 h2).2 i2 hi2, hk]

theorem single_sample_eq_window (junk : α) (f : Fld α) (hwf : f.WF = true) (s : Int) (n i : Nat)
    (h1 : Aligned f s = true) (h2 : Aligned f (s + i) = true)
    (hi : i < count (Spec.eof f) s n) (h0 : 0 < count (Spec.eof f) (s + i) 1) :
    (Impl.read junk f (s + i) 1)[0]? = (Impl.read junk f s n)[i]? :=
  window_split_independent junk f hwf (s + i) s 1 n h2 h1 0 i h0 hi (Int.add_zero _)

/-- one public operation on the reader: seek to byte `k`, read `n` bytes; `D.length + 2` is
    fuel enough from any state (`needFuel_le`) -/
def winOp (D : List Nat) (B : Nat) (w : Win) (op : Nat × Nat) : List Nat × Win :=
  Win.read D B (D.length + 2) (Win.seek D B w op.1) op.2

def winRun (D : List Nat) (B : Nat) : Win → List (Nat × Nat) → List (List Nat)
  | _, [] => []
  | w, op :: ops => (winOp D B w op).1 :: winRun D B (winOp D B w op).2 ops

theorem history_pure (D : List Nat) (B : Nat) (hB : 0 < B) :
    ∀ (ops : List (Nat × Nat)) (w : Win), Win.Inv D w →
      winRun D B w ops = ops.map (fun op => (D.drop op.1).take op.2) := by
  intro ops
  induction ops with
  | nil => intro w _; rfl
  | cons op ops ih =>
    intro w hi
    obtain ⟨h1, h2, _⟩ := seek_read_pure D B hB w op.1 op.2 hi
    rw [winRun, List.map_cons, ih (winOp D B w op).2 h2]
    exact congrArg (· :: _) h1

/-- the freshly opened reader satisfies the invariant -/
theorem fresh_inv (D : List Nat) : Win.Inv D ({} : Win) :=
  ⟨inv0_fresh D, rfl⟩

/-- a 10-byte stream behind a 4-byte window; the history reads to the end, goes back
    before the window, re-reads, and over-reads -/
example : winRun [10, 11, 12, 13, 14, 15, 16, 17, 18, 19] 4 {} [(0, 100), (0, 100), (7, 2), (2, 3), (9, 5), (3, 0)]
    = [[10, 11, 12, 13, 14, 15, 16, 17, 18, 19], [10, 11, 12, 13, 14, 15, 16, 17, 18, 19], [17, 18], [12, 13, 14], [19], []] := by
  decide

end GdModel.Props.C02
