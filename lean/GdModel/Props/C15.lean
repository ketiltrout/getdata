/-
  Property C15 — the field name table stays consistent under every sequence
  of metadata edits.

  Model: GdModel.Names.Table (the sorted `D->entry[]`, `_GD_FindField`,
  `_GD_InsertSort`).  Proved for every table and name:

  * `strlencmp_eq_iff`, `strlencmp_swap`, `lt_trans`: `_GD_strlencmp` is a strict total order;
  * `bisect_inv`, `find_spec`, `find_complete`: on a sorted table the bisection returns the index of
    the name if it is there, and otherwise the insertion point `u`, with every entry before `u`
    smaller and every entry from `u` on larger;
  * `add_sorted`, `add_mem`, `delete_sorted`, `ops_sorted`: adding (refused for a name already there)
    and deleting keep the table strictly sorted, hence free of duplicates, so it is sorted after any
    sequence of edits;
  * `reaffix_sorted`, `reaffix_mem`, `reaffix_found`: a change of affixes or namespace that renames
    any subset of the names and then re-sorts (`qsort` with `_GD_EntryCmp`) leaves a strictly sorted
    table of exactly the new names, each found by the bisection; the example after them shows that
    the re-sort is needed even when no length changes; `resort_in_source_is_unconditional` ties it
    to src/fragment.c through extractor X8.
-/
import GdModel.Names.Table
import GdModel.Generated.Resort
namespace GdModel.Props.C15
open GdModel.Names

/-! `memcmp` and `_GD_strlencmp` are lexicographic comparisons in the sense of core Lean (`compare` on
lists, `compareLex`), so the order laws are those of `Std.TransCmp`, `Std.OrientedCmp` and `Std.LawfulEqOrd`. -/

theorem ite_eq_then (m n : Nat) (o : Ordering) :
    (if m < n then .lt else if n < m then .gt else o) = (compare m n).then o := by
  rw [Nat.compare_eq_ite_lt, apply_ite (Ordering.then · o), apply_ite (Ordering.then · o)]
  rfl

theorem memcmp_eq_compare : ∀ (a b : Key), memcmp a b = compare a b
  | [], [] => rfl
  | [], _ :: _ => rfl
  | _ :: _, [] => rfl
  | x :: xs, y :: ys => by
    rw [List.compare_cons_cons, ← memcmp_eq_compare xs ys]
    exact ite_eq_then ..

theorem strlencmp_eq_lex (a b : Key) :
    strlencmp a b = compareLex (compareOn List.length) compare a b := by
  rw [strlencmp, memcmp_eq_compare]
  exact ite_eq_then ..

def lt (a b : Key) : Prop := strlencmp a b = .lt

theorem strlencmp_eq_iff (a b : Key) : strlencmp a b = .eq ↔ a = b := by
  rw [strlencmp_eq_lex, compareLex_eq_eq, Std.LawfulEqOrd.compare_eq_iff_eq]
  exact ⟨And.right, fun h => ⟨h ▸ Std.ReflCmp.compare_self, h⟩⟩

theorem strlencmp_swap (a b : Key) : strlencmp b a = (strlencmp a b).swap := by
  rw [strlencmp_eq_lex, strlencmp_eq_lex]
  exact Std.OrientedCmp.eq_swap

theorem gt_iff_lt (a b : Key) : strlencmp a b = .gt ↔ lt b a := by
  rw [lt, strlencmp_eq_lex, strlencmp_eq_lex]
  exact Std.OrientedCmp.gt_iff_lt

theorem lt_trans (a b c : Key) (h1 : lt a b) (h2 : lt b c) : lt a c := by
  rw [lt, strlencmp_eq_lex] at *
  exact Std.TransCmp.lt_trans h1 h2

theorem lt_irrefl (a : Key) : ¬ lt a a :=
  fun h => nomatch ((strlencmp_eq_iff a a).2 rfl).symm.trans h

theorem lt_total (a b : Key) (hne : a ≠ b) : lt a b ∨ lt b a :=
  match h : strlencmp a b with
  | .lt => .inl h
  | .eq => absurd ((strlencmp_eq_iff a b).1 h) hne
  | .gt => .inr ((gt_iff_lt a b).1 h)

@[reducible] def Sorted (tab : List Key) : Prop :=
  ∀ (i j : Nat) (a b : Key), i < j → tab[i]? = some a → tab[j]? = some b → lt a b

theorem sorted_iff_pairwise {tab : List Key} : Sorted tab ↔ tab.Pairwise lt := by
  rw [List.pairwise_iff_getElem]
  constructor
  · intro h i j hi hj hij
    exact h i j _ _ hij (List.getElem?_eq_getElem hi) (List.getElem?_eq_getElem hj)
  · intro h i j a b hij ha hb
    obtain ⟨hi, rfl⟩ := List.getElem?_eq_some_iff.1 ha
    obtain ⟨hj, rfl⟩ := List.getElem?_eq_some_iff.1 hb
    exact h i j hi hj hij

/-- One comparison settles a whole side of a sorted table: what stands at or before an entry smaller
    than `k` is smaller than `k`, what stands at or after a larger one is larger. -/
theorem Sorted.below {tab : List Key} (hs : Sorted tab) {m : Nat} {e k : Key} (he : tab[m]? = some e)
    (h : lt e k) (i : Nat) (a : Key) (hi : i < m + 1) (ha : tab[i]? = some a) : lt a k := by
  rcases Nat.lt_or_eq_of_le (Nat.le_of_lt_succ hi) with hlt | rfl
  · exact lt_trans _ _ _ (hs i m a e hlt ha he) h
  · cases ha.symm.trans he; exact h

theorem Sorted.above {tab : List Key} (hs : Sorted tab) {m : Nat} {e k : Key} (he : tab[m]? = some e)
    (h : lt k e) (i : Nat) (a : Key) (hi : m ≤ i) (ha : tab[i]? = some a) : lt k a := by
  rcases Nat.lt_or_eq_of_le hi with hlt | rfl
  · exact lt_trans _ _ _ h (hs m i e a hlt he ha)
  · cases ha.symm.trans he; exact h

def Gap (tab : List Key) (k : Key) (u : Nat) : Prop :=
  u ≤ tab.length ∧ (∀ (i : Nat) (a : Key), i < u → tab[i]? = some a → lt a k) ∧
    (∀ (i : Nat) (a : Key), u ≤ i → tab[i]? = some a → lt k a)

def Spec (tab : List Key) (k : Key) : Found → Prop
  | .at_ i => tab[i]? = some k
  | .missing u => Gap tab k u

-- `2 * l ≤ l + u` and `l + u < 2 * u`, written out because `omega` on the division costs four times as much
theorem mid_mem {l u : Nat} (h : l < u) : l ≤ (l + u) / 2 ∧ (l + u) / 2 < u :=
  ⟨(Nat.le_div_iff_mul_le Nat.two_pos).2 (Nat.mul_two l ▸ Nat.add_le_add_left (Nat.le_of_lt h) l),
   (Nat.div_lt_iff_lt_mul Nat.two_pos).2 (Nat.mul_two u ▸ Nat.add_lt_add_right h u)⟩

/-- **bisection invariant**: from any state with everything left of `l`
    smaller and everything from `u` on larger, the loop ends with a correct answer -/
theorem bisect_inv (tab : List Key) (k : Key) (hs : Sorted tab) :
    ∀ (fuel l u : Nat), u - l < fuel → l ≤ u → u ≤ tab.length →
      (∀ (i : Nat) (a : Key), i < l → tab[i]? = some a → lt a k) →
      (∀ (i : Nat) (a : Key), u ≤ i → tab[i]? = some a → lt k a) →
      Spec tab k (bisect tab k fuel l u) := by
  intro fuel l u hf hlu hu hleft hright
  fun_induction bisect tab k fuel l u
  case case1 => cases hf   -- out of fuel: excluded by `hf`
  case case2 l u hlt i hn =>   -- no entry at the midpoint `i`: it lies below `u ≤ tab.length`
    exact absurd (List.getElem?_eq_none_iff.1 hn) (Nat.not_le.2 (Nat.lt_of_lt_of_le (mid_mem hlt).2 hu))
  -- In the two recursive cases the half kept is shorter than `u - l`, which is at most `fuel` (`hfuel`);
  -- the linear side goals are written out because `omega` for them costs three times the rest of the proof.
  case case3 fuel l u hlt i e he hc ih =>   -- `k` is below the midpoint entry: go on in `[l, i)`
    obtain ⟨h1, h2⟩ := mid_mem hlt
    have hfuel : i - l < fuel := Nat.lt_of_lt_of_le (Nat.sub_lt_sub_right h1 h2) (Nat.le_of_lt_succ hf)
    exact ih hfuel h1 (Nat.le_trans (Nat.le_of_lt h2) hu) hleft (hs.above he hc)
  case case4 fuel l u hlt i e he hc ih =>   -- `k` is above it: go on in `[i + 1, u)`
    obtain ⟨h1, h2⟩ := mid_mem hlt
    have hfuel : u - (i + 1) < fuel :=
      Nat.lt_of_lt_of_le (Nat.sub_lt_sub_left hlt (Nat.lt_succ_of_le h1)) (Nat.le_of_lt_succ hf)
    exact ih hfuel h2 hu (hs.below he ((gt_iff_lt _ _).1 hc)) hright
  case case5 e he hc =>   -- the midpoint entry is `k`
    exact he.trans (congrArg some ((strlencmp_eq_iff _ _).1 hc).symm)
  case case6 hlt =>   -- `l = u`: the loop ends with the gap at `u`
    cases Nat.le_antisymm hlu (Nat.le_of_not_lt hlt)
    exact ⟨hu, hleft, hright⟩

/-- **look-up is correct** on every sorted table -/
theorem find_spec (tab : List Key) (k : Key) (hs : Sorted tab) : Spec tab k (find tab k) :=
  bisect_inv tab k hs _ 0 tab.length (Nat.lt_succ_self _) (Nat.zero_le _) (Nat.le_refl _)
    (fun _ _ h => nomatch h) (fun _ _ h ha => nomatch (List.getElem?_eq_none h).symm.trans ha)

theorem Gap.split {tab : List Key} {k : Key} {u : Nat} (h : Gap tab k u) :
    (∀ a ∈ tab.take u, lt a k) ∧ ∀ a ∈ tab.drop u, lt k a := by
  obtain ⟨_, hl, hr⟩ := h
  constructor
  · intro a ha
    obtain ⟨j, hj, rfl⟩ := List.mem_take_iff_getElem.1 ha
    exact hl j _ (Nat.lt_of_lt_of_le hj (Nat.min_le_left ..)) (List.getElem?_eq_getElem _)
  · intro a ha
    obtain ⟨j, hj, rfl⟩ := List.mem_drop_iff_getElem.1 ha
    exact hr _ _ (Nat.le_add_right u j) (List.getElem?_eq_getElem _)

theorem Gap.not_mem {tab : List Key} {k : Key} {u : Nat} (h : Gap tab k u) : k ∉ tab := by
  intro hk
  rw [← List.take_append_drop u tab, List.mem_append] at hk
  exact lt_irrefl k (hk.elim (h.split.1 k) (h.split.2 k))

/-- a name that is in a sorted table is found, at its index -/
theorem find_complete (tab : List Key) (k : Key) (hs : Sorted tab) (i : Nat) (hi : tab[i]? = some k) :
    find tab k = .at_ i := by
  match find tab k, find_spec tab k hs with
  | .at_ j, h =>
    rcases Nat.lt_trichotomy i j with hij | rfl | hij
    · exact absurd (hs i j k k hij hi h) (lt_irrefl k)
    · rfl
    · exact absurd (hs j i k k hij h hi) (lt_irrefl k)
  | .missing u, h => exact absurd (List.mem_of_getElem? hi) h.not_mem

theorem mem_insertAt (tab : List Key) (u : Nat) (k x : Key) : x ∈ insertAt tab u k ↔ x ∈ tab ∨ x = k := by
  rw [insertAt, List.mem_append, List.mem_cons, or_left_comm, ← List.mem_append, List.take_append_drop,
    or_comm]

theorem insert_sorted (tab : List Key) (u : Nat) (k : Key) (hs : Sorted tab) (hg : Gap tab k u) :
    Sorted (insertAt tab u k) := by
  rw [sorted_iff_pairwise] at hs ⊢
  obtain ⟨hl, hr⟩ := hg.split
  exact List.pairwise_append.2 ⟨hs.take, List.pairwise_cons.2 ⟨hr, hs.drop⟩, fun a ha =>
    List.forall_mem_cons.2 ⟨hl a ha, fun b hb => lt_trans _ _ _ (hl a ha) (hr b hb)⟩⟩

/-- **add** keeps the table sorted (so all names stay unique) -/
theorem add_sorted (tab : List Key) (k : Key) (hs : Sorted tab) : Sorted (add tab k).1 := by
  unfold add
  match find tab k, find_spec tab k hs with
  | .at_ _, _ => exact hs
  | .missing u, h => exact insert_sorted tab u k hs h

/-- **add** adds exactly that name; a name already present is refused and nothing changes -/
theorem add_mem (tab : List Key) (k x : Key) (hs : Sorted tab) :
    (x ∈ (add tab k).1 ↔ x ∈ tab ∨ x = k) ∧ ((add tab k).2 = false ↔ k ∈ tab) := by
  unfold add
  match find tab k, find_spec tab k hs with
  | .at_ i, h =>
    have hk : k ∈ tab := List.mem_of_getElem? h
    exact ⟨(or_iff_left_of_imp fun hx => hx ▸ hk).symm, iff_of_true rfl hk⟩
  | .missing u, h => exact ⟨mem_insertAt tab u k x, iff_of_false nofun h.not_mem⟩

theorem delete_sorted (tab : List Key) (k : Key) (hs : Sorted tab) : Sorted (delete tab k).1 := by
  unfold delete
  cases find tab k with
  | missing u => exact hs
  | at_ i => exact sorted_iff_pairwise.2 ((sorted_iff_pairwise.1 hs).eraseIdx i)

inductive Op where
  | add (k : Key)
  | del (k : Key)

def step (tab : List Key) : Op → List Key
  | .add k => (add tab k).1
  | .del k => (delete tab k).1

/-- **every reachable table is sorted**: `Sorted` holds after any sequence of adds and deletes
    (successful or refused) starting from a sorted table, in particular from the empty one.
    `Sorted` is strict, so the names are then unique, and by `find_complete` each is found by the bisection. -/
theorem ops_sorted (ops : List Op) (tab : List Key) (hs : Sorted tab) : Sorted (ops.foldl step tab) := by
  induction ops generalizing tab with
  | nil => exact hs
  | cons op rest ih =>
    apply ih
    cases op with
    | add k => exact add_sorted tab k hs
    | del k => exact delete_sorted tab k hs

theorem empty_sorted : Sorted [] := sorted_iff_pairwise.2 .nil

theorem ins_perm (k : Key) : ∀ (l : List Key), (ins k l).Perm (k :: l)
  | [] => .refl _
  | y :: ys => by
    unfold ins
    split
    · exact .refl _
    · exact ((ins_perm k ys).cons y).trans (.swap k y ys)

theorem ins_pairwise (k : Key) : ∀ (l : List Key), l.Pairwise lt → k ∉ l → (ins k l).Pairwise lt
  | [], _, _ => List.pairwise_singleton ..
  | y :: ys, hp, hk => by
    obtain ⟨hy, hys⟩ := List.pairwise_cons.1 hp
    unfold ins
    split
    · next hlt => exact hp.cons (List.forall_mem_cons.2 ⟨hlt, fun z hz => lt_trans k y z hlt (hy z hz)⟩)
    · next hnlt =>
      -- `k` is neither `y` nor below it, so it is above; the rest of `ins k ys` is `ys`
      have hyk : lt y k := (lt_total y k fun e => hk (e ▸ List.mem_cons_self)).resolve_right hnlt
      exact (ins_pairwise k ys hys (List.not_mem_of_not_mem_cons hk)).cons fun z hz =>
        List.forall_mem_cons.2 ⟨hyk, hy⟩ z ((ins_perm k ys).mem_iff.1 hz)

theorem resort_perm : ∀ (l : List Key), (resort l).Perm l
  | [] => .refl _
  | y :: ys => (ins_perm y _).trans ((resort_perm ys).cons y)

theorem resort_pairwise : ∀ (l : List Key), l.Nodup → (resort l).Pairwise lt
  | [], _ => .nil
  | y :: ys, hn => by
    obtain ⟨hy, hys⟩ := List.nodup_cons.1 hn
    exact ins_pairwise y _ (resort_pairwise ys hys) (mt (resort_perm ys).mem_iff.1 hy)

/-- **a change of affixes followed by the re-sort leaves a consistent table**:
    when the new names are distinct (the library checks that before it commits:
    GD_E_DUPLICATE), the table is strictly sorted again, it holds exactly the new
    names, and each of them is found by the bisection -/
theorem reaffix_sorted (tab : List Key) (f : Key → Key) (hd : (tab.map f).Nodup) :
    Sorted (reaffix tab f true) :=
  sorted_iff_pairwise.2 (resort_pairwise _ hd)

theorem reaffix_mem (tab : List Key) (f : Key → Key) (x : Key) :
    x ∈ reaffix tab f true ↔ ∃ k ∈ tab, f k = x :=
  (resort_perm _).mem_iff.trans List.mem_map

theorem reaffix_found (tab : List Key) (f : Key → Key) (hd : (tab.map f).Nodup) (k : Key) (hk : k ∈ tab) :
    ∃ i, find (reaffix tab f true) (f k) = .at_ i := by
  have hm : f k ∈ reaffix tab f true := (reaffix_mem tab f (f k)).2 ⟨k, hk, rfl⟩
  obtain ⟨i, hi⟩ := List.getElem?_of_mem hm
  exact ⟨i, find_complete _ _ (reaffix_sorted tab f hd) i hi⟩

/-- and the re-sort is needed even when no name changes its length: `Ax1 → Zx1`
    next to the untouched name `Mid` (same length, between the two) leaves a table
    in which the bisection no longer finds a listed name -/
example :
    let tab : List Key := [[65, 120, 49], [77, 105, 100]]               -- "Ax1", "Mid"  (sorted)
    let f : Key → Key := fun k => if k = [65, 120, 49] then [90, 120, 49] else k   -- "Ax1" ↦ "Zx1"
    find (reaffix tab f false) [90, 120, 49] = .missing 2 ∧
    find (reaffix tab f true) [90, 120, 49] = .at_ 1 ∧ find (reaffix tab f true) [77, 105, 100] = .at_ 0 := by decide

/-- the tie to src/fragment.c: X8 reads `_GD_UpdateAffixes` and reports whether every
    replaced code sets `resort` unconditionally, whether the `qsort` with
    `_GD_EntryCmp` follows, and whether `_GD_EntryCmp` is `_GD_strlencmp` on the two names -/
theorem resort_in_source_is_unconditional :
    Generated.resortFacts.everyReplacedCodeSetsResort = true ∧
    Generated.resortFacts.qsortWithEntryCmpFollows = true ∧
    Generated.resortFacts.entryCmpIsStrlencmp = true := by decide

example : (add (add (add [] [98, 98]).1 [97]).1 [97, 99]).1 = [[97], [97, 99], [98, 98]] := by decide
example : find [[97], [97, 99], [98, 98]] [98, 98] = .at_ 2 := by decide
example : find [[97], [97, 99], [98, 98]] [97, 100] = .missing 2 := by decide
example : (delete [[97], [97, 99], [98, 98]] [97, 99]).1 = [[97], [98, 98]] := by decide

end GdModel.Props.C15
