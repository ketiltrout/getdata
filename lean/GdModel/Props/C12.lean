/-
  Property C12 — a format fragment on disk is always entirely old or entirely new
  (and, with the same protocol, C14: data-file replacement is all-or-nothing).

  Model: GdModel.Replace.Model.  For every file system, every old and new
  content, every way of cutting the new text into write calls, and EVERY point
  at which the process may be killed or a call may fail (a replacement is
  `chunks.length + 4` calls: create, one write per chunk, chmod, close, rename;
  `k < chunks.length + 4` says that the rename has not happened):

  * `crash_old_or_new`   after any prefix of the protocol the target reads as the
                         complete old content, and after the whole protocol as the
                         complete new content — never anything else;
  * `crash_others`       no other file than the target and the temporary is touched;
  * `fail_keeps_old`     when any call fails, the target still has its old content,
                         the temporary file is gone, failure is reported and the
                         handle keeps its pending changes (`modified` stays set);
                         `failAt_of_lt`: the whole file system is as it was, less
                         the temporary;
  * `success_clears`     if the pending flag was set and is now clear, the rename
                         has happened (cleared ⇒ complete, not the converse);
  * `many_fragments`     flushing several fragments one after the other, none
                         naming another's target, and being killed anywhere
                         leaves each of them old or new
                         (`many_fragments_two`: the case of two).
-/
import GdModel.Replace.Model
namespace GdModel.Props.C12
open GdModel.Replace

@[simp] theorem read_write (fs : FS) (n m : String) (c : Content) :
    (fs.write n c).read m = if m = n then some c else fs.read m := rfl

@[simp] theorem read_remove (fs : FS) (n m : String) :
    (fs.remove n).read m = if m = n then none else fs.read m := rfl

theorem read_remove_same (fs : FS) (n : String) : (fs.remove n).read n = none :=
  (read_remove ..).trans (if_pos rfl)

theorem read_remove_other (fs : FS) (n m : String) (h : m ≠ n) : (fs.remove n).read m = fs.read m :=
  (read_remove ..).trans (if_neg h)

@[simp] theorem write_write (fs : FS) (n : String) (c d : Content) : (fs.write n c).write n d = fs.write n d :=
  funext fun m => by simp only [FS.write]; split <;> rfl

@[simp] theorem remove_write (fs : FS) (n : String) (c : Content) : (fs.write n c).remove n = fs.remove n :=
  funext fun m => by simp only [FS.write, FS.remove]; split <;> rfl

@[simp] theorem runOps_nil (fs : FS) : runOps fs [] = fs := rfl
@[simp] theorem runOps_cons (fs : FS) (op : Op) (ops : List Op) : runOps fs (op :: ops) = runOps (apply fs op) ops := rfl
@[simp] theorem runOps_append (fs : FS) (a b : List Op) : runOps fs (a ++ b) = runOps (runOps fs a) b :=
  List.foldl_append ..

def names : Op → List String
  | .rename t tgt => [t, tgt]
  | .create t | .append t _ | .chmod t | .close t | .unlink t => [t]

theorem apply_read (fs : FS) {op : Op} {m : String} (h : m ∉ names op) : (apply fs op).read m = fs.read m := by
  cases op <;> simp [names] at h <;> simp [apply, h]
  split <;> simp [h]  -- left over: `rename`, which does nothing when its source is missing

theorem runOps_read {ops : List Op} {m : String} (h : ∀ op ∈ ops, m ∉ names op) (fs : FS) :
    (runOps fs ops).read m = fs.read m := by
  induction ops generalizing fs with
  | nil => rfl
  | cons op ops ih =>
    rw [runOps_cons, ih fun o ho => h o (List.mem_cons_of_mem _ ho), apply_read fs (h op List.mem_cons_self)]

def prepare (tmp : String) (chunks : List Content) : List Op :=
  .create tmp :: chunks.map (.append tmp) ++ [.chmod tmp, .close tmp]

theorem protocol_eq (tmp target : String) (chunks : List Content) :
    protocol tmp target chunks = prepare tmp chunks ++ [.rename tmp target] := by
  simp [protocol, prepare]

theorem protocol_length (tmp target : String) (chunks : List Content) :
    (protocol tmp target chunks).length = chunks.length + 4 := by
  simp [protocol]

theorem names_of_mem_prepare {tmp : String} {chunks : List Content} {op : Op} (h : op ∈ prepare tmp chunks) :
    names op = [tmp] := by
  simp only [prepare, List.mem_cons, List.mem_append, List.mem_map, List.not_mem_nil, or_false] at h
  rcases h with (rfl | ⟨c, _, rfl⟩) | rfl | rfl <;> rfl

theorem runOps_appends (fs : FS) (tmp : String) (c0 : Content) (chunks : List Content) :
    runOps (fs.write tmp c0) (chunks.map (.append tmp)) = fs.write tmp (c0 ++ chunks.flatten) := by
  induction chunks generalizing c0 with
  | nil => simp
  | cons c rest ih => simp [apply, ih]

theorem runOps_prepare (fs : FS) (tmp : String) (chunks : List Content) :
    runOps fs (prepare tmp chunks) = fs.write tmp chunks.flatten := by
  simp [prepare, apply, runOps_appends]

theorem runOps_protocol (fs : FS) (tmp target : String) (chunks : List Content) :
    runOps fs (protocol tmp target chunks) = (fs.remove tmp).write target chunks.flatten := by
  simp [protocol_eq, runOps_prepare, apply]

/-- killed before the rename: only the temporary differs -/
theorem crashAt_of_lt {fs : FS} {tmp target m : String} {chunks : List Content} {k : Nat}
    (hk : k < chunks.length + 4) (hm : m ≠ tmp) : (crashAt fs tmp target chunks k).read m = fs.read m := by
  rw [crashAt, protocol_eq, List.take_append_of_le_length (by simp [prepare]; omega)]
  exact runOps_read (fun op hop => by simp [names_of_mem_prepare (List.mem_of_mem_take hop), hm]) fs

theorem crashAt_of_ge {fs : FS} {tmp target : String} {chunks : List Content} {k : Nat}
    (hk : chunks.length + 4 ≤ k) :
    crashAt fs tmp target chunks k = (fs.remove tmp).write target chunks.flatten := by
  rw [crashAt, List.take_of_length_le (by rw [protocol_length]; exact hk), runOps_protocol]

/-- Killing a replacement followed by `rest` after `k` calls: the replacement killed at `k` (`crashAt`), then what
    is left of `k` spent on `rest`.  `many_fragments` and `C14.move_old_or_new` peel one replacement off with it. -/
theorem runOps_take_protocol_append (fs : FS) (tmp target : String) (chunks : List Content)
    (rest : List Op) (k : Nat) :
    runOps fs ((protocol tmp target chunks ++ rest).take k) =
      runOps (crashAt fs tmp target chunks k) (rest.take (k - (chunks.length + 4))) := by
  simp [List.take_append, crashAt, protocol_length]

theorem crash_old_or_new (fs : FS) (tmp target : String) (chunks : List Content) (k : Nat)
    (hne : target ≠ tmp) :
    (crashAt fs tmp target chunks k).read target =
      if k < chunks.length + 4 then fs.read target else some chunks.flatten := by
  split
  · next hk => exact crashAt_of_lt hk hne
  · next hk => simp [crashAt_of_ge (Nat.le_of_not_lt hk)]

theorem crash_others (fs : FS) (tmp target m : String) (chunks : List Content) (k : Nat)
    (hm1 : m ≠ tmp) (hm2 : m ≠ target) :
    (crashAt fs tmp target chunks k).read m = fs.read m := by
  by_cases hk : k < chunks.length + 4
  · exact crashAt_of_lt hk hm1
  · simp [crashAt_of_ge (Nat.le_of_not_lt hk), hm1, hm2]

theorem failAt_of_lt {fs : FS} (h : Handle) {tmp target : String} {chunks : List Content} {k : Nat}
    (hk : k < chunks.length + 4) : failAt fs h tmp target chunks k = (fs.remove tmp, h, false) := by
  rw [failAt, protocol_length, if_pos hk]
  -- the temporary is unlinked; what was done before, `crashAt_of_lt`, changed nothing else
  exact congrArg (·, h, false) (funext fun m => ite_congr rfl (fun _ => rfl) (crashAt_of_lt hk))

theorem fail_keeps_old (fs : FS) (h : Handle) (tmp target : String) (chunks : List Content) (k : Nat)
    (hne : target ≠ tmp) (hk : k < chunks.length + 4) :
    let r := failAt fs h tmp target chunks k
    r.1.read target = fs.read target ∧ r.1.read tmp = none ∧ r.2.2 = false ∧ r.2.1 = h := by
  simp [failAt_of_lt h hk, hne]

theorem success_clears (fs : FS) (h : Handle) (tmp target : String) (chunks : List Content) (k : Nat) :
    (failAt fs h tmp target chunks k).2.1.modified = false ∧ h.modified = true → chunks.length + 4 ≤ k := by
  intro ⟨h1, h2⟩
  refine Nat.le_of_not_lt fun hk => ?_
  rw [failAt_of_lt h hk, h2] at h1
  cases h1

structure Job where
  tmp : String
  target : String
  chunks : List Content

def allOps (jobs : List Job) : List Op := jobs.flatMap fun j => protocol j.tmp j.target j.chunks

theorem names_of_mem_protocol {tmp target : String} {chunks : List Content} {op : Op}
    (h : op ∈ protocol tmp target chunks) : names op ⊆ [tmp, target] := by
  rw [protocol_eq, List.mem_append, List.mem_singleton] at h
  rcases h with h | rfl
  · simp [names_of_mem_prepare h]
  · exact List.Subset.refl _

theorem many_fragments (jobs : List Job) (hj : ∀ j ∈ jobs, j.target ≠ j.tmp)
    (hd : jobs.Pairwise fun a b => a.target ∉ [b.tmp, b.target] ∧ b.target ∉ [a.tmp, a.target])
    (fs : FS) (k : Nat) (j : Job) (hmem : j ∈ jobs) :
    (runOps fs ((allOps jobs).take k)).read j.target = fs.read j.target ∨
      (runOps fs ((allOps jobs).take k)).read j.target = some j.chunks.flatten := by
  induction jobs generalizing fs k with
  | nil => cases hmem
  | cons a rest ih =>
    rw [show allOps (a :: rest) = protocol a.tmp a.target a.chunks ++ allOps rest from List.flatMap_cons,
      runOps_take_protocol_append]
    obtain ⟨ha, hrest⟩ := List.pairwise_cons.mp hd
    rcases List.mem_cons.mp hmem with rfl | hjr
    · -- flushed first: old or new when its own calls stop, and no later job names its target
      rw [runOps_read fun op hop => ?_, crash_old_or_new _ _ _ _ _ (hj _ List.mem_cons_self)]
      · split <;> simp
      · obtain ⟨b, hb, hop⟩ := List.mem_flatMap.mp (List.mem_of_mem_take hop)
        exact fun h => (ha b hb).1 (names_of_mem_protocol hop h)
    · -- flushed later: the first job does not name its target
      have := ih (fun j h => hj j (List.mem_cons_of_mem _ h)) hrest (crashAt fs a.tmp a.target a.chunks k)
        (k - (a.chunks.length + 4)) hjr
      have hn := (ha j hjr).2
      rw [List.mem_cons, List.mem_singleton, not_or] at hn
      rwa [crash_others _ _ _ _ _ _ hn.1 hn.2] at this

/-- `h1`, `h2`: each job's target differs from its own temporary; `h3`–`h5`: neither target is a name of the other job. -/
theorem many_fragments_two (fs : FS) (a b : Job) (k : Nat)
    (h1 : a.target ≠ a.tmp) (h2 : b.target ≠ b.tmp) (h3 : a.target ≠ b.tmp) (h4 : a.target ≠ b.target)
    (h5 : b.target ≠ a.tmp) :
    let fs' := runOps fs ((allOps [a, b]).take k)
    (fs'.read a.target = fs.read a.target ∨ fs'.read a.target = some a.chunks.flatten) ∧
    (fs'.read b.target = fs.read b.target ∨ fs'.read b.target = some b.chunks.flatten) := by
  have := many_fragments [a, b] (by simp [h1, h2])
    (List.pairwise_pair.mpr ⟨by simp [h3, h4], by simp [h5, Ne.symm h4]⟩) fs k
  exact ⟨this a List.mem_cons_self, this b (List.mem_cons_of_mem _ List.mem_cons_self)⟩

def fs0 : FS := fun n => if n = "format" then some [1, 2, 3] else if n = "data" then some [9] else none
example : (crashAt fs0 "format_tmp" "format" [[7], [8, 8]] 3).read "format" = some [1, 2, 3] := by decide
example : (crashAt fs0 "format_tmp" "format" [[7], [8, 8]] 6).read "format" = some [7, 8, 8] := by decide
example : (crashAt fs0 "format_tmp" "format" [[7], [8, 8]] 3).read "format_tmp" = some [7, 8, 8] := by decide
example : (failAt fs0 ⟨true⟩ "format_tmp" "format" [[7], [8, 8]] 5).1.read "format_tmp" = none := by decide

end GdModel.Props.C12
