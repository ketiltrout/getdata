/-
  Property C04 — RAW data files on disk follow the Standards.

  The on-disk formats are modelled in GdModel.Codec.Disk.  Proved here, for
  every sample list, type and byte order:

  * `bare_roundtrip`      decoding the bare array written for `xs` gives `xs`
                          back, also when followed by a partial trailing sample;
  * `bare_length`         the file holds exactly `n * GD_SIZE(type)` bytes;
  * `text_roundtrip`      printing integers one per line and parsing the lines
                          gives the integers back (any sign, any magnitude):
                          splitting undoes joining lines (`splitLinesAux_flatMap`)
                          and `parse_printInt` holds for each line;
  * `sie_roundtrip`       encoding run-length records (index in fragment byte
                          order, never ARM-swapped) and decoding them gives the
                          records back;
  * `sie_file_samples`    decoding the file written for `compress xs` and expanding
                          the records gives `xs` (with `Sie.expandFrom_compressFrom`);
  * `sie_increasing`      the record ends of `compress xs` are strictly increasing.

  The bare and the sie round trip are both `chunkMap_flatMap`: the round trip of any
  codec whose units all have one size, followed by less than a unit.

  The gzip / bzip2 / xz containers themselves (zlib, libbz2, liblzma) are
  trusted; the correspondence check decodes the library's files with the stock
  Python decoders and hands the payload to `decodeSamples`.
-/
import GdModel.Codec.Disk
import GdModel.Bytes.Lemmas
import GdModel.Codec.FlatLemmas
namespace GdModel.Props.C04
open GdModel.Num GdModel.Bytes GdModel.Codec GdModel.Codec.Disk

theorem chunkMap_cons {β} (sz : Nat) (hsz : 0 < sz) (f : List Nat → β) (c rest : List Nat)
    (hc : c.length = sz) :
    chunkMap sz f (c ++ rest) = f c :: chunkMap sz f rest := by
  unfold chunkMap
  rw [List.length_append, hc, Nat.add_comm, Nat.add_div_right _ hsz, List.range_succ_eq_map, List.map_cons,
    List.map_map, Nat.zero_mul, List.drop_zero, List.take_left' hc]
  -- unit `i + 1` of `c ++ rest` is unit `i` of `rest`
  simp only [Function.comp_def, Nat.succ_mul, Nat.add_comm _ sz, ← List.drop_drop, List.drop_left' hc]

theorem chunkMap_short {β} (sz : Nat) (f : List Nat → β) (tail : List Nat) (h : tail.length < sz) :
    chunkMap sz f tail = [] := by
  rw [chunkMap, Nat.div_eq_of_lt h]
  rfl

theorem chunkMap_flatMap {α} (sz : Nat) (hsz : 0 < sz) (enc : α → List Nat) (dec : List Nat → α)
    (hlen : ∀ x, (enc x).length = sz) (xs : List α) (hrt : ∀ x ∈ xs, dec (enc x) = x)
    (tail : List Nat) (ht : tail.length < sz) :
    chunkMap sz dec (xs.flatMap enc ++ tail) = xs := by
  induction xs with
  | nil => exact chunkMap_short sz dec tail ht
  | cons x xs ih =>
    obtain ⟨hx, hxs⟩ := List.forall_mem_cons.1 hrt
    rw [List.flatMap_cons, List.append_assoc, chunkMap_cons sz hsz dec _ _ (hlen x), hx, ih hxs]

/-- the sample is a value of the type: each component below `2 ^ width`, and no imaginary part
    unless the type is complex (what `encodeSample` writes without loss) -/
def Fits (ty : Ty) (x : Sample) : Prop :=
  x.re < 2 ^ ty.comp.width ∧ (if ty.isComplex then x.im < 2 ^ ty.comp.width else x.im = 0)

theorem encodeSample_length (o : Order) (ty : Ty) (x : Sample) :
    (encodeSample o ty x).length = ty.size := by
  unfold encodeSample Ty.size
  split
  · rw [List.length_append, encodeComp_length, encodeComp_length, Nat.two_mul]
  · rw [encodeComp_length, Nat.one_mul]

theorem size_pos (ty : Ty) : 0 < ty.size := by cases ty <;> decide

theorem decodeSamples_eq (o : Order) (ty : Ty) (bs : List Nat) :
    decodeSamples o ty bs = chunkMap ty.size (decodeOne o ty) bs := rfl

theorem decodeOne_encodeSample (o : Order) (ty : Ty) (x : Sample) (hx : Fits ty x) :
    decodeOne o ty (encodeSample o ty x) = x := by
  unfold decodeOne encodeSample
  obtain ⟨hre, him⟩ := hx
  split at him
  · next h =>
    have hl := encodeComp_length o ty.comp x.re
    simp only [if_pos h]
    rw [List.take_left' hl, List.drop_left' hl, decode_encode_comp o _ _ hre, decode_encode_comp o _ _ him]
  · next h =>
    simp only [if_neg h]
    rw [decode_encode_comp o _ _ hre, ← him]

theorem bare_roundtrip (o : Order) (ty : Ty) (xs : List Sample) (tail : List Nat)
    (hx : ∀ x ∈ xs, Fits ty x) (ht : tail.length < ty.size) :
    decodeSamples o ty (encodeSamples o ty xs ++ tail) = xs := by
  rw [decodeSamples_eq, encodeSamples]
  exact chunkMap_flatMap ty.size (size_pos ty) (encodeSample o ty) (decodeOne o ty) (encodeSample_length o ty) xs
    (fun x h => decodeOne_encodeSample o ty x (hx x h)) tail ht

theorem bare_roundtrip_whole (o : Order) (ty : Ty) (xs : List Sample) (hx : ∀ x ∈ xs, Fits ty x) :
    decodeSamples o ty (encodeSamples o ty xs) = xs := by
  have := bare_roundtrip o ty xs [] hx (size_pos ty)
  rwa [List.append_nil] at this

theorem bare_length (o : Order) (ty : Ty) (xs : List Sample) :
    (encodeSamples o ty xs).length = xs.length * ty.size := by
  rw [encodeSamples, List.length_flatMap, funext (encodeSample_length o ty), List.map_const', List.sum_replicate_nat]

theorem parseNatAux_cons_digit (d : Nat) (hd : d < 10) (cs : List Nat) (acc : Nat) :
    parseNatAux (digitChar d :: cs) acc = parseNatAux cs (acc * 10 + d) := by
  rw [parseNatAux, digitChar, if_pos ⟨Nat.le_add_right .., Nat.add_le_add_left (Nat.le_of_lt_succ hd) 48⟩,
    Nat.add_sub_cancel_left]

theorem parseNatAux_digit (d : Nat) (hd : d < 10) (acc : Nat) :
    parseNatAux [digitChar d] acc = some (acc * 10 + d) :=
  parseNatAux_cons_digit d hd [] acc

theorem digits_of_parseNatAux : ∀ (cs : List Nat) (acc n : Nat), parseNatAux cs acc = some n →
    ∀ c ∈ cs, 48 ≤ c ∧ c ≤ 57
  | [], _, _, _, _, hc => nomatch hc
  | c :: cs, acc, n, h, d, hd => by
    rw [parseNatAux] at h
    split at h
    · next hc =>
      rcases List.mem_cons.1 hd with rfl | hd
      · exact hc
      · exact digits_of_parseNatAux cs _ n h d hd
    · nomatch h

/-- the digits written for `n` in front of `acc` parse to `n`, then go on into `acc` -/
theorem parse_decDigitsAux : ∀ (fuel n : Nat) (acc : List Nat), n < fuel →
    parseNatAux (decDigitsAux fuel n acc) 0 = parseNatAux acc n ∧ decDigitsAux fuel n acc ≠ []
  | fuel + 1, n, acc, h => by
    rw [decDigitsAux]
    split
    · next hn => exact ⟨by rw [parseNatAux_cons_digit n hn, Nat.zero_mul, Nat.zero_add], nofun⟩
    · obtain ⟨ih, hne⟩ := parse_decDigitsAux fuel (n / 10) (digitChar (n % 10) :: acc) (by omega)
      exact ⟨by rw [ih, parseNatAux_cons_digit _ (Nat.mod_lt n (by decide)), Nat.div_add_mod'], hne⟩

theorem parse_printNat (n : Nat) : parseNat? (printNat n) = some n := by
  obtain ⟨hp, hne⟩ := parse_decDigitsAux (n + 1) n [] (Nat.lt_succ_self n)
  rw [parseNat?]
  · exact hp
  · exact hne

theorem printNat_digits (n : Nat) : ∀ c ∈ printNat n, 48 ≤ c ∧ c ≤ 57 :=
  digits_of_parseNatAux _ 0 n (parse_decDigitsAux (n + 1) n [] (Nat.lt_succ_self n)).1

theorem parse_printInt (z : Int) : parseInt? (printInt z) = some z := by
  unfold printInt
  split
  · next h =>
    rw [parseInt?, parse_printNat]
    exact congrArg some (Int.eq_neg_of_eq_neg (Int.ofNat_natAbs_of_nonpos (Int.le_of_lt h))).symm
  · next h =>
    rw [parseInt?, parse_printNat]
    · exact congrArg some (Int.toNat_of_nonneg (Int.not_lt.1 h))
    · -- the digits do not start with `-`
      intro rest heq
      exact absurd (printNat_digits z.toNat 45 (heq ▸ List.mem_cons_self)).1 (by decide)

theorem printInt_no_newline (z : Int) : ∀ c ∈ printInt z, c ≠ 10 := by
  intro c hc
  have hd : ∀ n, c ∈ printNat n → c ≠ 10 := fun n h e => absurd (e ▸ (printNat_digits n c h).1) (by decide)
  unfold printInt at hc
  split at hc
  · rcases List.mem_cons.1 hc with rfl | h
    · decide
    · exact hd _ h
  · exact hd _ hc

theorem splitLinesAux_append (l : List Nat) (hl : ∀ c ∈ l, c ≠ 10) (rest cur : List Nat) :
    splitLinesAux (l ++ rest) cur = splitLinesAux rest (l.reverse ++ cur) := by
  induction l generalizing cur with
  | nil => rfl
  | cons c cs ih =>
    obtain ⟨hc, hcs⟩ := List.forall_mem_cons.1 hl
    rw [List.cons_append, splitLinesAux, if_neg hc, ih hcs, List.reverse_cons, List.append_assoc]
    rfl

theorem splitLinesAux_flatMap (ls : List (List Nat)) (hl : ∀ l ∈ ls, ∀ c ∈ l, c ≠ 10)
    (rest : List Nat) (hr : ∀ c ∈ rest, c ≠ 10) :
    splitLinesAux (ls.flatMap (· ++ [10]) ++ rest) [] = ls := by
  induction ls with
  | nil =>
    -- the right side is `splitLinesAux [] _ = []`: an unterminated rest is dropped
    exact List.append_nil rest ▸ splitLinesAux_append rest hr [] []
  | cons l ls ih =>
    obtain ⟨h, hls⟩ := List.forall_mem_cons.1 hl
    rw [List.flatMap_cons, List.append_assoc, List.append_assoc, splitLinesAux_append l h, List.singleton_append,
      splitLinesAux, if_pos rfl, ih hls, List.append_nil, List.reverse_reverse]

theorem text_roundtrip (zs : List Int) (partial_ : List Nat) (hp : ∀ c ∈ partial_, c ≠ 10) :
    parseLines (printLines zs ++ partial_) = zs.map some := by
  rw [parseLines, printLines, ← List.flatMap_map printInt (· ++ [10]),
    splitLinesAux_flatMap _ (List.forall_mem_map.2 fun z _ => printInt_no_newline z) _ hp, List.map_map]
  exact List.map_congr_left fun z _ => parse_printInt z

theorem encodeIdx_length (o : Order) (i : Nat) : (encodeIdx o i).length = 8 := by
  unfold encodeIdx
  split <;> simp [leBytes_length]

theorem decode_encode_idx (o : Order) (i : Nat) (hi : i < 2 ^ 64) : decodeIdx o (encodeIdx o i) = i := by
  unfold decodeIdx encodeIdx
  have h := leVal_leBytes 8 i (by simpa using hi)
  cases o.big <;> simp [h]

theorem encodeRec_length (o : Order) (ty : Ty) (r : Sie.Rec Sample) :
    (encodeRec o ty r).length = 8 + ty.size := by
  unfold encodeRec
  rw [List.length_append, encodeIdx_length, encodeSample_length]

theorem decodeRec_encodeRec (o : Order) (ty : Ty) (r : Sie.Rec Sample) (hi : r.1 < 2 ^ 64) (hx : Fits ty r.2) :
    decodeRec o ty (encodeRec o ty r) = r := by
  unfold decodeRec encodeRec
  have hl := encodeIdx_length o r.1
  rw [List.take_left' hl, List.drop_left' hl, decode_encode_idx o _ hi, decodeOne_encodeSample o ty _ hx]

theorem sie_roundtrip (o : Order) (ty : Ty) (rs : List (Sie.Rec Sample)) (tail : List Nat)
    (hr : ∀ r ∈ rs, r.1 < 2 ^ 64 ∧ Fits ty r.2) (ht : tail.length < 8 + ty.size) :
    decodeSie o ty (encodeSie o ty rs ++ tail) = rs :=
  chunkMap_flatMap (8 + ty.size) (Nat.add_pos_left (by decide) _) (encodeRec o ty) (decodeRec o ty)
    (encodeRec_length o ty) rs (fun r h => decodeRec_encodeRec o ty r (hr r h).1 (hr r h).2) tail ht

theorem sie_file_samples (o : Order) (ty : Ty) (xs : List Sample)
    (hx : ∀ x ∈ xs, Fits ty x) (hn : xs.length < 2 ^ 64) :
    Sie.expand (decodeSie o ty (encodeSie o ty (Sie.compress xs))) = xs := by
  obtain ⟨hex, hwf⟩ := Sie.expandFrom_compressFrom xs 0
  have h := sie_roundtrip o ty (Sie.compress xs) [] (fun r hr => by
    -- a record of `compress xs` ends below `xs.length` and carries a sample of `xs`
    have := Sie.mem_of_wf _ 0 hwf r hr
    rw [hex, Nat.zero_add] at this
    exact ⟨Nat.lt_trans this.1 hn, hx _ this.2⟩) (Nat.add_pos_left (by decide) _)
  rw [List.append_nil] at h
  rw [h]
  exact hex

theorem wf_increasing : ∀ (rs : List (Sie.Rec Sample)) (start : Nat), Sie.WF start rs → sieIncreasing rs = true
  | [], _, _ => rfl
  | [_], _, _ => rfl
  | (la, _) :: (lb, vb) :: rest, _, ⟨_, hab, h⟩ => by
    rw [sieIncreasing, wf_increasing ((lb, vb) :: rest) (la + 1) ⟨hab, h⟩, Bool.and_true]
    exact decide_eq_true hab

theorem sie_increasing (xs : List Sample) : sieIncreasing (Sie.compress xs) = true :=
  wf_increasing _ 0 (Sie.expandFrom_compressFrom xs 0).2

example : Fits .c128 ⟨0x3ff0000000000000, 0x4000000000000000⟩ := by unfold Fits; decide
example : decodeSamples ⟨true, true⟩ .f64 (encodeSamples ⟨true, true⟩ .f64 [⟨0x3ff0000000000000, 0⟩, ⟨5, 0⟩] ++ [1, 2, 3])
    = [⟨0x3ff0000000000000, 0⟩, ⟨5, 0⟩] := by decide
example : parseLines (printLines [-12, 0, 305] ++ [52, 50]) = [some (-12), some 0, some 305] := by decide
example : sieIncreasing (Sie.compress [(⟨1, 0⟩ : Sample), ⟨1, 0⟩, ⟨2, 0⟩, ⟨1, 0⟩]) = true := by decide

end GdModel.Props.C04
