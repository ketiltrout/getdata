/-
  Property C17 — sequential access with I/O pointers equals random access.

  Model: GdModel.Field.IOPos (pointer state = position of every RAW field;
  `tell`, `seek`, `afterRead` transcribed from src/iopos.c and the read path).
  For single-input chains (RAW, one-input fields, PHASE), ALL states:

  * `tell_seek` : a successful gd_seek to p establishes exactly p (gd_tell
    reports p) — whatever the PHASE shifts, because `_GD_Seek` and
    `_GD_GetIOPos` use the same sign convention;
  * `tell_after_read` : after reading n samples at s (window inside the
    field) gd_tell reports s + n + 2·Σshift.  With no PHASE in the chain this
    is the property's s + n (`tell_after_read_no_phase`); with a PHASE it is
    NOT (`tell_after_read_phase_counterexample`): the read path shifts the
    other way (known finding 5.30; test/seek_phase.c pins the seek convention);
  * `seek_negative_refused` : negative positions are GD_E_RANGE at every level;
  * `multipos_detected` : a two-input field whose inputs disagree on position
    reports GD_E_DOMAIN, it never guesses;
  * `here_read_is_absolute_at_tell` : after a successful seek to p, a GD_HERE
    transfer (start := what `tell` reports, as `_GD_DoField` does) leaves the
    pointers where the absolute transfer at p leaves them.  It is `tell_seek`
    under the `match`; it speaks of `afterRead` states, not of the data read.
-/
import GdModel.Field.IOPos

namespace GdModel.Props.C17
open GdModel.Field

theorem set_get (st : Pos) (id : Nat) (v : Int) : (st.set id v) id = v :=
  if_pos rfl

/-- for a chain, `tell` is the RAW position plus the total shift -/
theorem tell_chain : ∀ (f : PF), Chain f = true → ∀ (st : Pos), ∃ id, (∀ st' : Pos, tell f st' = .ok (st' id + shiftSum f)) ∧ True := by
  intro f
  induction f with
  | raw id _ => exact fun _ _ => ⟨id, fun st' => congrArg Except.ok (Int.add_zero _).symm, trivial⟩
  | map1 x ih => exact ih
  | map2 => intro h; cases h
  | phase sh x ih =>
    intro h st
    obtain ⟨id, h1, _⟩ := ih h st
    refine ⟨id, fun st' => ?_, trivial⟩
    rw [tell, h1 st', shiftSum]
    exact congrArg Except.ok (by omega)

theorem tell_seek : ∀ (f : PF), Chain f = true → ∀ (p : Int) (st st' : Pos),
    seek f p st = .ok st' → tell f st' = .ok p := by
  intro f
  induction f with
  | raw id _ =>
    intro _ p st st' h
    rw [seek] at h
    split at h
    · cases h
    · cases h; exact congrArg Except.ok (set_get st id p)
  | map1 x ih =>
    intro hc p st st' h
    rw [seek] at h
    split at h
    · cases h
    · exact ih hc p st st' h
  | map2 => intro h; cases h
  | phase sh x ih =>
    intro hc p st st' h
    rw [seek] at h
    split at h
    · cases h
    · rw [tell, ih hc (p - sh) st st' h]
      exact congrArg Except.ok (Int.sub_add_cancel p sh)

theorem seek_negative_refused (f : PF) (p : Int) (st : Pos) (hp : p < 0) : seek f p st = .error .range := by
  cases f <;> exact if_pos hp

theorem tell_after_read : ∀ (f : PF), Chain f = true → ∀ (s : Int) (n : Nat) (st : Pos),
    0 ≤ s + shiftSum f → s + n ≤ chainEof f →
    tell f (afterRead f s n st) = .ok (s + n + 2 * shiftSum f) := by
  intro f
  induction f with
  | raw id e =>
    intro _ s n st h0 he
    rw [shiftSum, Int.add_zero] at h0
    rw [chainEof] at he
    rw [afterRead, tell, set_get, shiftSum, Int.mul_zero, Int.add_zero,
      Int.min_eq_left (Int.le_trans he (Int.le_max_left e s)),
      Int.max_eq_right (Int.add_nonneg h0 (Int.natCast_nonneg n))]
  | map1 x ih => exact ih
  | map2 => intro h; cases h
  | phase sh x ih =>
    intro hc s n st h0 he
    rw [shiftSum] at h0 ⊢
    rw [chainEof] at he
    rw [afterRead, tell, ih hc (s + sh) n st (Int.add_assoc s sh _ ▸ h0)
      (Int.add_right_comm s n sh ▸ Int.add_le_of_le_sub_right he)]
    exact congrArg Except.ok (by omega)

/-- the property's claim, for chains without PHASE (or whose shifts cancel) -/
theorem tell_after_read_no_phase (f : PF) (hc : Chain f = true) (h0 : shiftSum f = 0)
    (s : Int) (n : Nat) (st : Pos) (hs : 0 ≤ s) (he : s + n ≤ chainEof f) :
    tell f (afterRead f s n st) = .ok (s + n) := by
  rw [tell_after_read f hc s n st (by rw [h0, Int.add_zero]; exact hs) he, h0, Int.mul_zero, Int.add_zero]

/-- `p PHASE data 3`, data has 100 samples: reading 5 samples at 10 leaves
    gd_tell(p) at 21, not 15. -/
theorem tell_after_read_phase_counterexample :
    tell (.phase 3 (.raw 0 100)) (afterRead (.phase 3 (.raw 0 100)) 10 5 (fun _ => 0)) = .ok 21 := rfl

theorem multipos_detected (a b : PF) (st : Pos) (pa pb : Int)
    (ha : tell a st = .ok pa) (hb : tell b st = .ok pb) (hne : pa ≠ pb) :
    tell (.map2 a b) st = .error .domain := by
  simp [tell, ha, hb, hne]

/-- and when they agree it reports their common position -/
theorem multipos_agree (a b : PF) (st : Pos) (p : Int)
    (ha : tell a st = .ok p) (hb : tell b st = .ok p) : tell (.map2 a b) st = .ok p := by
  simp [tell, ha, hb]

/-- the `match` is `_GD_DoField` substituting `_GD_GetIOPos` for a GD_HERE start -/
theorem here_read_is_absolute_at_tell (f : PF) (hc : Chain f = true) (p : Int) (n : Nat) (st st' : Pos)
    (h : seek f p st = .ok st') :
    (match tell f st' with | .ok q => afterRead f q n st' | .error _ => st') = afterRead f p n st' := by
  rw [tell_seek f hc p st st' h]

/-- non-vacuity: a chain with two PHASEs and a one-input field -/
example : Chain (.phase 2 (.map1 (.phase (-2) (.raw 7 50)))) = true ∧
    shiftSum (.phase 2 (.map1 (.phase (-2) (.raw 7 50)))) = 0 := by decide

end GdModel.Props.C17
