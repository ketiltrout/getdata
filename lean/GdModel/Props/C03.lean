/-
  Property C03 — what is written is what is read back.

  Spec: a RAW field is a flat array (`Codec.Flat`); `Flat.put` is gd_putdata.
  For ALL arrays, positions, data and histories:
  * `getElem?_put`     : every index of the array after a write, in one statement;
                         the next three are its readings;
  * `put_get_written`  : the samples written read back;
  * `put_get_before`   : samples before the write are untouched, and a gap
                         between the old end and the write reads as zero;
  * `put_get_after`    : samples after the write are untouched;
  * `put_length`       : the field ends at the highest sample written;
  * `put_empty`        : writing nothing changes nothing;
  * `run_append`       : sequential (GD_HERE-style) writes concatenate;
  * `run_valueAt`      : after a history of writes index `i` holds `Flat.valueAt … i`
                         (which is defined through the array after each write);
  SIE (sample-index) encoding:
  * `expand_compress`  : run-length records produced by `compress` expand back
                         to exactly the samples;
  * `compress_wf`      : their indices are strictly increasing (both from
                         `Sie.expandFrom_compressFrom` in Codec/FlatLemmas, which holds
                         from any start index);
  Bits:
  * `bit_put_exact`    : writing `n` bits at bit `b` changes exactly those bits.
  Text encoding (Codec.TextScan: the fscanf loop of `_GD_AsciiRead` over the formats,
  conversion counts and padding line that extractor X9 reads from src/ascii.c):
  * `TextPad.padding_reads_back` : for every type and every gap length the padding a
                         write past the end leaves is read back in full.
-/
import GdModel.Codec.FlatLemmas
import GdModel.Codec.TextScan

namespace GdModel.Props.C03
open GdModel.Codec

variable {α : Type}

theorem put_empty (zero : α) (a : List α) (k : Nat) : Flat.put zero a k [] = a := rfl

theorem length_take_pad (zero : α) (a : List α) (k : Nat) :
    ((a ++ List.replicate (k - a.length) zero).take k).length = k := by
  rw [List.length_take, List.length_append, List.length_replicate, Nat.add_comm, Nat.sub_add_eq_max]
  exact Nat.min_eq_left (Nat.le_max_left ..)

theorem put_length (zero : α) (a : List α) (k : Nat) (x : α) (xs : List α) :
    (Flat.put zero a k (x :: xs)).length = max a.length (k + (xs.length + 1)) := by
  simp only [Flat.put, List.length_append, length_take_pad, List.length_drop, List.length_cons]
  rw [Nat.add_comm, Nat.sub_add_eq_max]

theorem getElem?_put (zero : α) (a : List α) (k : Nat) (x : α) (xs : List α) (i : Nat) :
    (Flat.put zero a k (x :: xs))[i]? =
      if i < k then (if i < a.length then a[i]? else some zero)
      else if i < k + (x :: xs).length then (x :: xs)[i - k]? else a[i]? := by
  have hl := length_take_pad zero a k
  simp only [Flat.put, List.append_assoc]
  by_cases h : i < k
  · rw [if_pos h, List.getElem?_append_left (hl.symm ▸ h), List.getElem?_take_of_lt h, List.getElem?_append,
      List.getElem?_replicate]
    by_cases h' : i < a.length
    · rw [if_pos h', if_pos h']
    · rw [if_neg h', if_neg h', if_pos (Nat.sub_lt_sub_right (Nat.le_of_not_lt h') h)]
  · have hk := Nat.le_of_not_lt h
    rw [if_neg h, List.getElem?_append_right (hl.symm ▸ hk), hl, List.getElem?_append, List.getElem?_drop]
    by_cases h' : i < k + (x :: xs).length
    · rw [if_pos h', if_pos ((Nat.sub_lt_iff_lt_add' hk).2 h')]
    · have h' := Nat.le_of_not_lt h'
      rw [if_neg (Nat.not_lt.2 h'), if_neg (Nat.not_lt.2 ((Nat.le_sub_iff_add_le' hk).2 h')), Nat.sub_sub,
        Nat.add_sub_cancel' h']

theorem put_get_written (zero : α) (a : List α) (k : Nat) (x : α) (xs : List α) (i : Nat)
    (hi : i < (x :: xs).length) :
    (Flat.put zero a k (x :: xs))[k + i]? = (x :: xs)[i]? := by
  rw [getElem?_put, if_neg (Nat.not_lt.2 (Nat.le_add_right ..)), if_pos (Nat.add_lt_add_left hi k),
    Nat.add_sub_cancel_left]

theorem put_get_before (zero : α) (a : List α) (k : Nat) (x : α) (xs : List α) (i : Nat) (hi : i < k) :
    (Flat.put zero a k (x :: xs))[i]? = if i < a.length then a[i]? else some zero := by
  rw [getElem?_put, if_pos hi]

theorem put_get_after (zero : α) (a : List α) (k : Nat) (x : α) (xs : List α) (i : Nat)
    (hi : k + (x :: xs).length ≤ i) :
    (Flat.put zero a k (x :: xs))[i]? = a[i]? := by
  rw [getElem?_put, if_neg (Nat.not_lt.2 (Nat.le_trans (Nat.le_add_right ..) hi)), if_neg (Nat.not_lt.2 hi)]

theorem put_append (zero : α) (a xs : List α) : Flat.put zero a a.length xs = a ++ xs := by
  cases xs with
  | nil => exact (List.append_nil a).symm
  | cons x xs =>
    simp only [Flat.put, Nat.sub_self, List.replicate_zero, List.append_nil, List.take_length]
    rw [List.drop_of_length_le (by simp), List.append_nil]

theorem run_append (zero : α) (a : List α) (chunks : List (List α)) :
    (chunks.foldl (fun acc xs => Flat.put zero acc acc.length xs) a) = a ++ chunks.flatten := by
  induction chunks generalizing a with
  | nil => simp
  | cons c cs ih =>
    rw [List.foldl_cons, put_append, ih (a ++ c), List.flatten_cons, List.append_assoc]

/-- `valueAt` is defined through the array after each write, so this is its unfolding -/
theorem run_valueAt (zero : α) (a : List α) (ops : List (Nat × List α)) (i : Nat) :
    (Flat.run zero a ops)[i]? = Flat.valueAt zero a ops i := by
  induction ops generalizing a with
  | nil => rfl
  | cons op ops ih => simp only [Flat.run, List.foldl_cons, Flat.valueAt]; exact ih _

theorem expand_compress [DecidableEq α] (xs : List α) : Sie.expand (Sie.compress xs) = xs :=
  (Sie.expandFrom_compressFrom xs 0).1

theorem compress_wf [DecidableEq α] (xs : List α) : Sie.WF 0 (Sie.compress xs) :=
  (Sie.expandFrom_compressFrom xs 0).2

/-- `_GD_DoBitOut`: clear `n` bits at `b`, then or in the new value -/
def bitPut (old v b n : Nat) : Nat :=
  (old / 2 ^ (b + n)) * 2 ^ (b + n) + (v % 2 ^ n) * 2 ^ b + old % 2 ^ b

theorem bit_put_exact (old v b n : Nat) :
    (bitPut old v b n / 2 ^ b) % 2 ^ n = v % 2 ^ n ∧
    bitPut old v b n % 2 ^ b = old % 2 ^ b ∧
    bitPut old v b n / 2 ^ (b + n) = old / 2 ^ (b + n) := by
  have hb := Nat.two_pow_pos b
  have hn := Nat.two_pow_pos n
  -- `bitPut` in positional form: the low `b` bits, then `n` bits, then the rest
  have e : bitPut old v b n = 2 ^ b * (2 ^ n * (old / 2 ^ (b + n)) + v % 2 ^ n) + old % 2 ^ b := by
    rw [bitPut, Nat.pow_add, Nat.mul_add, Nat.mul_comm (old / _), Nat.mul_assoc, Nat.mul_comm (v % _)]
  have e1 : bitPut old v b n / 2 ^ b = 2 ^ n * (old / 2 ^ (b + n)) + v % 2 ^ n := by
    rw [e, Nat.mul_add_div hb, Nat.div_eq_of_lt (Nat.mod_lt old hb), Nat.add_zero]
  refine ⟨?_, ?_, ?_⟩
  · rw [e1, Nat.mul_add_mod, Nat.mod_mod]
  · rw [e, Nat.mul_add_mod, Nat.mod_mod]
  · rw [Nat.pow_add, ← Nat.div_div_eq_div_mul, e1, ← Nat.pow_add, Nat.mul_add_div hn,
      Nat.div_eq_of_lt (Nat.mod_lt v hn), Nat.add_zero]

namespace TextPad
open GdModel.Codec.TextScan GdModel.Generated

/-- every row of the extracted table has one of the two shapes `%<num>\n` and
    `%<num>;%<num>\n`, with the padding line and the required conversion count of
    the current source (X9 regenerates all of them on every run) -/
theorem table_shapes :
    ∀ row ∈ asciiScanDirs,
      (row.2.1 = false ∧ row.2.2 = [.num, .ws] ∧ padOf false = [48, 10] ∧ needOf false = 1) ∨
      (row.2.1 = true ∧ row.2.2 = [.num, .lit 59, .num, .ws] ∧ padOf true = [48, 59, 48, 10] ∧ needOf true = 2) := by
  decide

theorem padFile_succ (pad : List Nat) (n : Nat) : padFile pad (n + 1) = pad ++ padFile pad n := rfl

/-- A file of `n` padding lines reads back as `n` samples as soon as one `fscanf`
    consumes exactly one padding line with all `need` conversions, whatever
    padding follows it. -/
theorem readAll_padFile (dirs : List ScanDir) (need : Nat) (c : Nat) (pad : List Nat)
    (hscan : ∀ m, scan dirs (c :: pad ++ padFile (c :: pad) m) = (need, padFile (c :: pad) m)) :
    ∀ (n fuel : Nat), n ≤ fuel → readAll dirs need fuel (padFile (c :: pad) n) = n
  | 0, fuel, _ => by cases fuel <;> rfl
  | n + 1, fuel + 1, hf => by
    rw [padFile_succ, readAll, if_neg (by simp), hscan, if_neg (Nat.lt_irrefl _),
      readAll_padFile dirs need c pad hscan n fuel (Nat.le_of_succ_le_succ hf)]

-- `fscanf` on a concrete line is evaluated by unfolding the scanner
attribute [local simp] scan scanNum skipWs dropDigits isWs isDigit

/-- the trailing `ws` directive stops at the next padding line, which starts with `0` -/
theorem skipWs_padFile (pad : List Nat) (m : Nat) : skipWs (padFile (48 :: pad) m) = padFile (48 :: pad) m := by
  cases m with
  | zero => rfl
  | succ m => simp [padFile_succ]

/-- the reader returns all `n` padding samples: it does not stop at the first of them,
    which is what made the whole field unreadable in 5.84 -/
theorem padding_reads_back :
    ∀ row ∈ asciiScanDirs, ∀ (n fuel : Nat), n ≤ fuel →
      readAll row.2.2 (needOf row.2.1) fuel (padFile (padOf row.2.1) n) = n := by
  intro row hrow
  rcases table_shapes row hrow with ⟨hc, hd, hp, hn⟩ | ⟨hc, hd, hp, hn⟩
  all_goals
    rw [hc, hd, hp, hn]
    exact readAll_padFile _ _ _ _ fun m => by simp [skipWs_padFile]

/-- what the code did before the repair: the line `0` for a complex type gives one
    conversion where two are needed, and nothing at all is read -/
example : readAll [.num, .lit 59, .num, .ws] 2 10 (padFile [48, 10] 2 ++ [49, 59, 50, 10]) = 0 := by decide
/-- with the repaired padding the data after the gap are reached -/
example : readAll [.num, .lit 59, .num, .ws] 2 10 (padFile [48, 59, 48, 10] 2 ++ [49, 59, 50, 10]) = 3 := by decide

end TextPad

example : Flat.put 0 [1, 2, 3] 5 [9, 9] = [1, 2, 3, 0, 0, 9, 9] := by decide
example : Flat.put 0 [1, 2, 3, 4] 1 [8, 8] = [1, 8, 8, 4] := by decide
example : Sie.compress [5, 5, 6, 7, 7, 7] = [(1, 5), (2, 6), (5, 7)] := by decide
example : bitPut 0b11111111 0b010 2 3 = 0b11101011 := by decide

end GdModel.Props.C03
