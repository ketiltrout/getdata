/-
  Property C16 — reported extents agree with what can be read.

  * `read_count_eq_min_eof` : for every field tree and aligned window from a
    sample s ≥ 0, the reader returns exactly min(n, max(0, E − s)) samples,
    where E = max 0 (pointwise end-of-field).
  * `eof_is_tight` : a field has a value at k exactly when k is below its
    end-of-field (all trees, all k ∈ ℤ) — nothing at or beyond it, nothing
    missing below it.
  * `bof_characterisation`, `sample_at_bof_is_data`, `below_bof_is_padding` :
    the beginning-of-field is the first sample computed from stored data.
  * `bof_impl_eq_spec_partial` : `_GD_GetBOF` computes it for fields without
    PHASE; `bof_floor_counterexample` : with a PHASE under a rate change the
    sub-frame offset is rounded down and gd_bof points at a padding sample
    (known finding 5.23).
  * `eof_impl_eq_spec_partial`, `eof_clamp_counterexample` (Props/C01) : gd_eof
    reports that E unless a PHASE has clamped; where one has, it reports more
    than can be read.
  * `read_count_unbounded` : a field that depends only on INDEX returns all n.
  * `nframes_spec` : `Spec.nframes` is the complete frames of the reference field
    plus its frame offset (the definition); `nframes_monotone` : appending
    samples never lowers it; `frames_below_nframes_complete` : every frame it
    counts is stored whole.
-/
import GdModel.Field.Extents
import GdModel.Props.C01

namespace GdModel.Props.C16
open GdModel.Field

variable {α : Type}

/-- `max 0` of the pointwise end `e`: what `_GD_GetEOF` (`Impl.eof`) returns only where
    `C01.eof_impl_eq_spec_partial` applies (`C01.eof_clamp_counterexample`: it can return more) -/
def gdEof (e : Int) : Int := max 0 e

theorem read_count_eq_min_eof (junk : α) (f : Fld α) (hwf : f.WF = true) (s : Int) (n : Nat)
    (hs : 0 ≤ s) (hal : Aligned f s = true) (e : Int) (he : Spec.eof f = some e) :
    (Impl.read junk f s n).length = min n (max 0 (gdEof e - s)).toNat := by
  rw [(read_spec junk f hwf s n hal).length_eq, he]
  show min n (e - s).toNat = min n (max 0 (max 0 e - s)).toNat
  rcases Int.le_total e s with h | h
  · rw [Int.toNat_eq_zero.mpr (Int.sub_nonpos_of_le h),
      Int.max_eq_left (Int.sub_nonpos_of_le (Int.max_le.mpr ⟨hs, h⟩))]
    rfl
  · rw [Int.max_eq_right (Int.le_trans hs h), Int.max_eq_right (Int.sub_nonneg_of_le h)]

/-- fields that depend only on INDEX have no end: the read returns all n samples -/
theorem read_count_unbounded (junk : α) (f : Fld α) (hwf : f.WF = true) (s : Int) (n : Nat)
    (hal : Aligned f s = true) (he : Spec.eof f = none) :
    (Impl.read junk f s n).length = n := by
  rw [(read_spec junk f hwf s n hal).length_eq, he]; rfl

theorem isSome_guard {c : Bool} {v : Option α} (h : c = true → v.isSome = true) :
    (if c = true then v else none).isSome = c := by
  cases c
  · rfl
  · exact h rfl

theorem eof_is_tight (f : Fld α) (hwf : f.WF = true) (k : Int) :
    (Spec.sample f k).isSome = Spec.below (Spec.eof f) k := by
  induction f generalizing k with
  | raw spf off pad data =>
    rw [Spec.sample, Spec.eof, Spec.below]
    split
    · next h =>
      exact (decide_eq_true (Int.lt_of_lt_of_le h (Int.le_add_of_nonneg_right (Int.natCast_nonneg _)))).symm
    · next h =>
      rw [Bool.eq_iff_iff, isSome_getElem?, decide_eq_true_eq,
        Int.toNat_lt (Int.sub_nonneg_of_le (Int.not_lt.mp h))]
      exact ⟨Int.lt_add_of_sub_left_lt, Int.sub_left_lt_of_lt_add⟩
  | index fn => rfl
  | map1 g x ih =>
    rw [Spec.sample, Option.isSome_map]
    exact ih hwf k
  | phase sh x ih =>
    rw [Spec.sample]
    refine isSome_guard fun hb => ?_
    rw [ih hwf, ← below_shift]
    exact hb
  | map2 g a b iha ihb =>
    simp only [Fld.WF, Bool.and_eq_true] at hwf
    rw [Spec.sample]
    refine isSome_guard fun hb => ?_
    -- below the combined end each input is below its own end at the sample it is indexed with
    obtain ⟨ha, hb'⟩ := below_secondary (Fld.spf_pos a hwf.1) (Fld.spf_pos b hwf.2) hb
    obtain ⟨va, hva⟩ := Option.isSome_iff_exists.mp ((iha hwf.1 k).trans ha)
    obtain ⟨vb, hvb⟩ := Option.isSome_iff_exists.mp ((ihb hwf.2 _).trans hb')
    rw [hva, hvb]; rfl
  | map3 g a b c iha ihb ihc =>
    simp only [Fld.WF, Bool.and_eq_true] at hwf
    have h1 := Fld.spf_pos a hwf.1.1
    rw [Spec.sample]
    refine isSome_guard fun hb => ?_
    obtain ⟨hab, hc'⟩ := below_secondary h1 (Fld.spf_pos c hwf.2) hb
    obtain ⟨ha, hb'⟩ := below_secondary h1 (Fld.spf_pos b hwf.1.2) hab
    obtain ⟨va, hva⟩ := Option.isSome_iff_exists.mp ((iha hwf.1.1 k).trans ha)
    obtain ⟨vb, hvb⟩ := Option.isSome_iff_exists.mp ((ihb hwf.1.2 _).trans hb')
    obtain ⟨vc, hvc⟩ := Option.isSome_iff_exists.mp ((ihc hwf.2 _).trans hc')
    rw [hva, hvb, hvc]; rfl

theorem nothing_at_or_beyond_eof (f : Fld α) (hwf : f.WF = true) (e k : Int)
    (he : Spec.eof f = some e) (hk : e ≤ k) : Spec.sample f k = none :=
  Option.isNone_iff_eq_none.mp <| Option.isSome_eq_false_iff.mp <|
    (eof_is_tight f hwf k).trans (he ▸ decide_eq_false (Int.not_lt.mpr hk))

theorem nothing_missing_below_eof (f : Fld α) (hwf : f.WF = true) (e k : Int)
    (he : Spec.eof f = some e) (hk : k < e) : ∃ v, Spec.sample f k = some v :=
  Option.isSome_iff_exists.mp ((eof_is_tight f hwf k).trans (he ▸ decide_eq_true hk))

theorem scaleUp_le_iff {x k : Int} {r1 r2 : Nat} (h1 : 0 < r1) (h2 : 0 < r2) :
    Spec.scaleUp x r1 r2 ≤ k ↔ x ≤ k * r2 / r1 := by
  unfold Spec.scaleUp
  rw [Int.neg_le_iff, Int.le_ediv_iff_mul_le (Int.natCast_pos.mpr h2),
    Int.le_ediv_iff_mul_le (Int.natCast_pos.mpr h1), Int.neg_mul, Int.neg_le_neg_iff]

theorem bof_characterisation (f : Fld α) (hwf : f.WF = true) (k : Int) :
    Spec.isData f k = true ↔ Spec.bofU f ≤ k := by
  induction f generalizing k with
  | raw spf off pad data => exact decide_eq_true_iff
  | index fn => exact decide_eq_true_iff
  | map1 g x ih => exact ih hwf k
  | phase sh x ih =>
    rw [Spec.isData, ih hwf, Spec.bofU]
    exact ⟨Int.sub_right_le_of_le_add, Int.le_add_of_sub_right_le⟩
  | map2 g a b iha ihb =>
    simp only [Fld.WF, Bool.and_eq_true] at hwf
    rw [Spec.isData, Spec.bofU, Bool.and_eq_true, iha hwf.1 k, ihb hwf.2, Int.max_le,
      scaleUp_le_iff (Fld.spf_pos a hwf.1) (Fld.spf_pos b hwf.2)]
  | map3 g a b c iha ihb ihc =>
    simp only [Fld.WF, Bool.and_eq_true] at hwf
    have h1 := Fld.spf_pos a hwf.1.1
    rw [Spec.isData, Spec.bofU, Bool.and_eq_true, Bool.and_eq_true, iha hwf.1.1 k, ihb hwf.1.2, ihc hwf.2,
      Int.max_le, Int.max_le, scaleUp_le_iff h1 (Fld.spf_pos b hwf.1.2),
      scaleUp_le_iff h1 (Fld.spf_pos c hwf.2)]

theorem sample_at_bof_is_data (f : Fld α) (hwf : f.WF = true) : Spec.isData f (Spec.bof f) = true :=
  (bof_characterisation f hwf _).mpr (Int.le_max_right 0 _)

theorem below_bof_is_padding (f : Fld α) (hwf : f.WF = true) (k : Int) (h0 : 0 ≤ k) (hk : k < Spec.bof f) :
    Spec.isData f k = false :=
  Bool.eq_false_iff.mpr fun h =>
    Int.not_le.mpr hk (Int.max_le.mpr ⟨h0, (bof_characterisation f hwf k).mp h⟩)

/-- no PHASE anywhere, RAW offsets are whole frames (as `/FRAMEOFFSET` gives) -/
def NoPhase : Fld α → Bool
  | .raw spf off _ _ => decide (off % spf = 0)
  | .index _ => true
  | .map1 _ x => NoPhase x
  | .phase _ _ => false
  | .map2 _ a b => NoPhase a && NoPhase b
  | .map3 _ a b c => NoPhase a && NoPhase b && NoPhase c

/-- One further input beginning at whole frame `F1`, seen from a first input
    beginning at whole frame `F0`: `_GD_GetBOF` keeps the later frame … -/
theorem later_frames (F0 F1 : Int) (r0 r1 : Nat) :
    (if Impl.later ⟨F1, 0, r1⟩ ⟨F0, 0, r0⟩ then (⟨F1, 0 * r0 / r1, r0⟩ : Impl.BofT) else ⟨F0, 0, r0⟩) =
      ⟨max F0 F1, 0, r0⟩ := by
  simp only [Impl.later, Int.zero_mul, Int.zero_ediv, Int.lt_irrefl, decide_false, Bool.and_false,
    Bool.or_false, decide_eq_true_eq, gt_iff_lt]
  split
  · next h => rw [Int.max_eq_right (Int.le_of_lt h)]
  · next h => rw [Int.max_eq_left (Int.not_lt.mp h)]

/-- … and so does the pointwise definition, in samples of the first input. -/
theorem max_scaleUp_frames {F0 F1 : Int} {r0 r1 : Nat} (h1 : 0 < r1) :
    max (F0 * r0) (Spec.scaleUp (F1 * r1) r0 r1) = max F0 F1 * r0 := by
  have hs : Spec.scaleUp (F1 * r1) r0 r1 = F1 * r0 := by
    rw [Spec.scaleUp, Int.mul_right_comm, ← Int.neg_mul,
      Int.mul_ediv_cancel _ (Int.ne_of_gt (Int.natCast_pos.mpr h1)), Int.neg_neg]
  have hr : (0 : Int) ≤ r0 := Int.natCast_nonneg r0
  rw [hs]
  rcases Int.le_total F0 F1 with h | h
  · rw [Int.max_eq_right h, Int.max_eq_right (Int.mul_le_mul_of_nonneg_right h hr)]
  · rw [Int.max_eq_left h, Int.max_eq_left (Int.mul_le_mul_of_nonneg_right h hr)]

/-- without PHASE every field begins on a whole frame `F`, which is what `_GD_GetBOF` finds -/
theorem bofT_noPhase (f : Fld α) (hwf : f.WF = true) (hn : NoPhase f = true) :
    ∃ F : Int, 0 ≤ F ∧ Impl.bofT f = ⟨F, 0, f.spf⟩ ∧ Spec.bofU f = F * f.spf := by
  induction f with
  | raw spf off _ _ =>
    refine ⟨(off / spf : Nat), Int.natCast_nonneg _, rfl, ?_⟩
    show (off : Int) = (off / spf : Nat) * (spf : Int)
    exact_mod_cast (Nat.div_mul_cancel (Nat.dvd_of_mod_eq_zero (of_decide_eq_true hn))).symm
  | index _ => exact ⟨0, Int.le_refl 0, rfl, (Int.zero_mul _).symm⟩
  | map1 _ x ih => exact ih hwf hn
  | phase _ _ => cases hn
  | map2 _ a b iha ihb =>
    simp only [Fld.WF, NoPhase, Bool.and_eq_true] at hwf hn
    obtain ⟨Fa, ha0, ha1, ha2⟩ := iha hwf.1 hn.1
    obtain ⟨Fb, _, hb1, hb2⟩ := ihb hwf.2 hn.2
    refine ⟨max Fa Fb, Int.le_trans ha0 (Int.le_max_left ..), ?_, ?_⟩
    · simp only [Impl.bofT, ha1, hb1, later_frames]; rfl
    · simp only [Spec.bofU, ha2, hb2, max_scaleUp_frames (Fld.spf_pos b hwf.2)]; rfl
  | map3 _ a b c iha ihb ihc =>
    simp only [Fld.WF, NoPhase, Bool.and_eq_true] at hwf hn
    obtain ⟨Fa, _, ha1, ha2⟩ := iha hwf.1.1 hn.1.1
    obtain ⟨Fb, _, hb1, hb2⟩ := ihb hwf.1.2 hn.1.2
    obtain ⟨Fc, hc0, hc1, hc2⟩ := ihc hwf.2 hn.2
    refine ⟨max (max Fa Fb) Fc, Int.le_trans hc0 (Int.le_max_right ..), ?_, ?_⟩
    · simp only [Impl.bofT, ha1, hb1, hc1, later_frames]; rfl
    · simp only [Spec.bofU, ha2, hb2, hc2, max_scaleUp_frames (Fld.spf_pos b hwf.1.2),
        max_scaleUp_frames (Fld.spf_pos c hwf.2)]; rfl

theorem bof_impl_eq_spec_partial (f : Fld α) (hwf : f.WF = true) (hn : NoPhase f = true) :
    Impl.bof f = Spec.bof f := by
  obtain ⟨F, h0, h1, h2⟩ := bofT_noPhase f hwf hn
  rw [Impl.bof, Spec.bof, h1, h2, Int.max_eq_right (Int.mul_nonneg h0 (Int.natCast_nonneg _))]
  exact Int.add_zero _

/-- a RAW 2/frame; b RAW 3/frame shifted right by one sample; m combines them.
    Sample 0 of m uses b's sample ⌊0·3/2⌋ = 0, which is padding: the field
    begins at 1, but `_GD_GetBOF` rounds b's sub-frame offset 1/3 down to 0/2. -/
def exA : Fld Nat := .raw 2 0 0 [1, 2, 3, 4]
def exB : Fld Nat := .phase (-1) (.raw 3 0 0 [5, 6, 7, 8, 9, 10])
def exM : Fld Nat := .map2 (· + ·) exA exB
theorem bof_floor_counterexample :
    Impl.bof exM = 0 ∧ Spec.bof exM = 1 ∧ Spec.isData exM 0 = false := by decide

/-- unfolds the definition: complete frames of the reference RAW field plus the frame offset -/
theorem nframes_spec (spf foff nsamples : Nat) :
    Spec.nframes spf foff nsamples = nsamples / spf + foff := rfl

theorem nframes_monotone (spf foff n m : Nat) (h : n ≤ m) :
    Spec.nframes spf foff n ≤ Spec.nframes spf foff m :=
  Nat.add_le_add_right (Nat.div_le_div_right h) foff

theorem frames_below_nframes_complete (spf foff nsamples k : Nat) (_hspf : 0 < spf)
    (hk : k < Spec.nframes spf foff nsamples) (hk0 : foff ≤ k) :
    (k - foff + 1) * spf ≤ nsamples :=
  (Nat.le_div_iff_mul_le _hspf).mp ((Nat.sub_lt_iff_lt_add hk0).mpr hk)

/-- non-vacuity: the example of C01 with a 3:2 rate pair, PHASE and frame offsets -/
example : (Impl.read 0 GdModel.Props.C01.exT 6 100).length
    = min 100 (max 0 (gdEof 14 - 6)).toNat ∧ Spec.eof GdModel.Props.C01.exT = some 14 := by decide

end GdModel.Props.C16
