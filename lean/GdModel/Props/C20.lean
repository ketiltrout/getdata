/-
  Property C20 — the C++ binding and the command-line tools show what the C library holds.

  (a) Forwarding: `cxxMethods` is regenerated from bindings/cxx/*.cpp on every
      run (extract/x7_cxxfwd.py).  The theorems say, of that table: every
      method reviewed as a thin forward passes the handle followed by its own
      parameters, in declaration order, to the C function of the reviewed name,
      with the right number of arguments; every other Dirfile/Fragment method
      makes exactly the reviewed C calls; every Entry setter that talks to the
      library hands its own structure to gd_alter_entry under its own name, and
      writes only members of its own union arm.
  (b) dirfile2ascii: the rows of the print loop cover each requested frame once,
      and a field printed directly shows sample k·spf + j in row (k, j) — so
      without skipping its column is exactly the samples gd_getdata returned.
  PARTIAL: these are statements about the extracted table and about a model of
  the print loop; behaviour of the compiled binding and tools is tied by the
  differential runs of checks/c20.py.
-/
import GdModel.Cxx.Expected
import GdModel.Cxx.Ascii
namespace GdModel.Props.C20
open GdModel.Generated GdModel.Cxx

def params (n : Nat) : List String := (List.range n).map fun i => "P" ++ toString i

/-- `return gd_f(D, p0, …, p(n-1))` -/
def isThin (m : CxxMethod) (callee : String) : Bool :=
  match m.calls with
  | [c] => c.callee == callee && c.args == "D" :: params m.nparams && c.arityOk
  | _ => false

def findMethods (cls name : String) (n : Nat) : List CxxMethod :=
  cxxMethods.filter fun m => m.cls == cls && m.name == name && m.nparams == n

/-- `findMethods` with the number of parameters tested first: comparing two names costs the
    kernel several times what going past a method costs, and most methods of a class fail on the number. -/
theorem findMethods_eq (cls name : String) (n : Nat) :
    findMethods cls name n = cxxMethods.filter fun m => m.nparams == n && (m.cls == cls && m.name == name) := by
  simp only [findMethods, Bool.and_comm]

/-- **Thin forwards.**  Each reviewed thin method exists in the current source
    and passes the handle and then its parameters in declaration order. -/
theorem thin_methods_forward_in_order :
    expectedThin.all (fun (cls, name, n, callee) => (findMethods cls name n).any (isThin · callee)) = true := by
  simp only [findMethods_eq]
  decide +kernel

/-- **Everything else is as reviewed.**  The methods that are not thin forwards
    make exactly the C calls written down in GdModel.Cxx.Expected. -/
theorem other_methods_as_reviewed :
    expectedOther.all (fun (cls, name, n, calls) => (findMethods cls name n).any (fun m => m.calls == calls)) = true := by
  simp only [findMethods_eq]
  decide +kernel

/-- no Dirfile/Fragment method has appeared or disappeared -/
theorem method_census :
    (cxxMethods.filter fun m => m.cls == "Dirfile" || m.cls == "Fragment").length =
      expectedThin.length + expectedOther.length := by
  decide +kernel

/-- the members of `gd_entry_t` outside its union (`struct gd_unified_entry_`, src/getdata.h.in) -/
def commonMembers : List String := ["field", "field_type", "fragment_index", "in_fields", "scalar", "scalar_ind", "flags"]

def armOf (cls : String) : Option String := (armTable.find? (·.1 == cls)).map (·.2)

/-- **Entry setters.**  Every `Set…` method of an entry class that calls the
    library first passes its own name and its own structure to gd_alter_entry. -/
theorem entry_setters_alter_own_struct :
    (cxxMethods.filter fun m => m.entryClass && m.setter && !m.calls.isEmpty).all
      (fun m => match m.calls.head? with
        | some c => c.callee == "gd_alter_entry" && c.args.take 3 == ["D", "E.field", "ENTRY"] && c.arityOk
        | none => false) = true := by
  decide +kernel

/-- …and every entry class writes only common members and members of its own union arm -/
theorem entry_writes_own_members :
    (cxxMethods.filter fun m => m.entryClass).all
      (fun m => m.writes.all fun w =>
        match w with
        | [x] => commonMembers.contains x
        | "u" :: arm :: _ => armOf m.cls == some arm
        | _ => false) = true := by
  decide +kernel

theorem flatMap_range_mul (n m : Nat) (f : Nat → Nat) :
    (List.range n).flatMap (fun k => (List.range m).map fun j => f (k * m + j)) =
      (List.range (n * m)).map f := by
  induction n with
  | zero => simp
  | succ n ih =>
    rw [List.range_succ, List.flatMap_append, ih, Nat.succ_mul, List.range_add, List.map_append]
    simp [List.map_map, Function.comp_def, Nat.add_comm]

/-- **Every sample once, in order.**  Without skipping, a field at the highest
    rate shows in its column exactly samples 0 … nf·spf − 1 of what gd_getdata
    returned for the requested frame range. -/
theorem column_is_the_data (spf nf : Nat) :
    column spf nf 1 spf false = List.range (nf * spf) := by
  unfold column rowIdx
  rw [List.filter_eq_self.mpr (by simp [Nat.mod_one])]
  simp only [Bool.false_eq_true, if_false, List.map_flatMap, List.map_map, Function.comp_def, directIndex]
  rw [flatMap_range_mul nf spf (fun i => i)]
  simp

/-- with skipping every row is one frame, `skip` frames apart, showing the frame's first sample -/
theorem column_skipping (spf nf skip maxSpf : Nat) :
    column spf nf skip maxSpf true = ((List.range nf).filter (fun k => k % skip = 0)).map (· * spf) := by
  simp [column, rowIdx, directIndex, ← List.map_eq_flatMap]

/-- the interpolated field starts from a sample of the same frame -/
theorem prev_in_frame (spf maxSpf k j : Nat) (hj : j < maxSpf) :
    k * spf ≤ prevIndex spf maxSpf k j ∧ prevIndex spf maxSpf k j < (k + 1) * spf ∨ spf = 0 := by
  by_cases h0 : spf = 0
  · exact .inr h0
  · have : j * spf / maxSpf < spf :=
      Nat.div_lt_of_lt_mul ((Nat.mul_lt_mul_right (Nat.pos_of_ne_zero h0)).mpr hj)
    rw [prevIndex, Nat.succ_mul]
    generalize j * spf / maxSpf = q at this ⊢
    exact .inl (by omega)

/-- checkdirfile's decision table -/
theorem checkdirfile_reports_iff (openErr : Bool) (nSyntax : Nat) (validate : List Bool) :
    checkdirfileProblem openErr nSyntax validate = true ↔
      (openErr = true ∨ nSyntax > 0 ∨ ∃ v ∈ validate, v = false) := by
  simp [checkdirfileProblem, List.any_eq_true, or_assoc]

example : column 2 3 1 2 false = [0, 1, 2, 3, 4, 5] := by decide
example : column 2 5 2 4 true = [0, 4, 8] := by decide

end GdModel.Props.C20
