/- What `Spec.after` and `Spec.subs` compute line by line, what one line does to the interpreter's state,
   and induction over a run of `Impl.items`. -/
import GdModel.Scope.Model
namespace GdModel.Scope
open Spec

def Attrs.step (s : Attrs) : Item → Attrs
  | .set a v => s.set a v
  | _ => s

theorem after1_cons_set (inh : Nat) (a b : Attr) (v : Nat) (r : List Item) :
    after1 inh a (.set b v :: r) = after1 (if a = b then v else inh) a r := by
  simp only [after1, lastSet]
  cases lastSet a r with
  | some w => rfl
  | none => by_cases h : a = b <;> simp [h]

theorem after_cons (inh : Attrs) (i : Item) (r : List Item) : after inh (i :: r) = after (inh.step i) r := by
  cases i with
  | set b v =>
    simp only [after, after1_cons_set]
    cases b <;> rfl
  | _ => rfl

theorem after_eq_foldl (inh : Attrs) (its : List Item) : after inh its = its.foldl Attrs.step inh := by
  induction its generalizing inh with
  | nil => rfl
  | cons i r ih => rw [after_cons, ih, List.foldl_cons]

theorem after_append (inh : Attrs) (xs ys : List Item) :
    after inh (xs ++ ys) = after (after inh xs) ys := by
  simp only [after_eq_foldl, List.foldl_append]

/-- the lines before an /INCLUDE matter to the fragments below only through the settings they leave -/
theorem subs_pre (inh : Attrs) (pre : List Item) : ∀ its, subs inh pre its = subs (after inh pre) [] its
  | .nil => rfl
  | .cons i r => by
    simp only [subs, List.nil_append]
    rw [show subsItem inh pre i = subsItem (after inh pre) [] i by cases i <;> rfl,
      subs_pre inh (pre ++ [i]) r, subs_pre (after inh pre) [i] r, after_append]

/-- the state in which the lines of a fragment included from `st` start -/
def St.enter (st : St) (ns px sx : Name) : St :=
  { st with p := { st.p with ns := if decide (ns ≠ []) || decide (st.p.ns ≠ []) then [] else st.p.ns },
            cur := childFrag st ns px sx, done := [], nfrag := st.nfrag + 1, ref := none }

/-- the parent's state `st` after an included fragment that ended in `st2` -/
def St.leave (st st2 : St) : St :=
  { p := { P.popVersion st.p st2.p with ns := st.p.ns }, cur := st.cur,
    done := st.done ++ st2.cur :: st2.done, nfrag := st2.nfrag, names := st2.names,
    firstRaw := st2.firstRaw, ref := match st2.ref with | some r => some r | none => st.ref,
    err := st2.err }

-- (`by rfl`: as a term, `rfl` elaborates seven times dearer on `leave_err` and `leave_cur`)
theorem St.enter_err (st : St) (ns px sx : Name) : (st.enter ns px sx).err = st.err := by rfl
theorem St.enter_attrs (st : St) (ns px sx : Name) : (st.enter ns px sx).cur.attrs = st.cur.attrs := by rfl
theorem St.enter_done (st : St) (ns px sx : Name) : (st.enter ns px sx).done = [] := by rfl
theorem St.enter_ref (st : St) (ns px sx : Name) : (st.enter ns px sx).ref = none := by rfl
theorem St.leave_err (st st2 : St) : (st.leave st2).err = st2.err := by rfl
theorem St.leave_cur (st st2 : St) : (st.leave st2).cur = st.cur := by rfl
theorem St.leave_done (st st2 : St) : (st.leave st2).done = st.done ++ st2.cur :: st2.done := by rfl
theorem St.leave_ref (st st2 : St) :
    (st.leave st2).ref = match st2.ref with | some r => some r | none => st.ref := by rfl

theorem item_inc (depth : Nat) (ns px sx : Name) (body : Items) (st : St) :
    Impl.item depth (.inc ns px sx body) st =
      if depth + 1 ≥ maxRecurse then { st with err := true }
      else st.leave (Impl.items (depth + 1) body (st.enter ns px sx)) := rfl

theorem items_cons (depth : Nat) (i : Item) (r : Items) (st : St) :
    Impl.items depth (.cons i r) st =
      if (Impl.item depth i st).err then Impl.item depth i st else Impl.items depth r (Impl.item depth i st) := rfl

/-- what a line `i` that is not an /INCLUDE does to the fields the theorems speak of, in terms of the
    `Spec` functions -/
structure Line (i : Item) (st st' : St) : Prop where
  depth : i.depth = 0
  err : st'.err = st.err
  done : st'.done = st.done
  attrs : st'.cur.attrs = st.cur.attrs.step i
  ref : refsItem i = 0 → st'.ref = st.ref
  firstRaw (n : Name) : st.firstRaw = some n → st'.firstRaw = some n

theorem subsItem_line {i : Item} (hi : i.depth = 0) (inh : Attrs) (pre : List Item) : subsItem inh pre i = [] := by
  cases i <;> first | rfl | cases hi

theorem item_line (d : Nat) {i : Item} (st : St) (hi : i.depth = 0) : Line i st (Impl.item d i st) := by
  unfold Impl.item
  cases i with
  | inc => cases hi
  | reference => exact ⟨hi, rfl, rfl, rfl, nofun, fun _ h => h⟩
  | raw | other =>
    dsimp only
    split
    · exact ⟨hi, rfl, rfl, rfl, fun _ => rfl, fun n h => by simp [defineField, h]⟩
    · exact ⟨hi, rfl, rfl, rfl, fun _ => rfl, fun _ h => h⟩
  | _ => exact ⟨hi, rfl, rfl, rfl, fun _ => rfl, fun _ h => h⟩

/-- `P` relates the states before and after every line, `Q` those before and after every fragment -/
structure Impl.Run (P : Nat → Item → St → St → Prop) (Q : Nat → Items → St → St → Prop) : Prop where
  item (d : Nat) (i : Item) (st : St) : P d i st (Impl.item d i st)
  items (d : Nat) (its : Items) (st : St) : Q d its st (Impl.items d its st)

theorem Impl.run_induct {P : Nat → Item → St → St → Prop} {Q : Nat → Items → St → St → Prop}
    (line : ∀ {d i st st'}, Line i st st' → P d i st st')
    (limit : ∀ {d ns px sx body st}, d + 1 ≥ maxRecurse → P d (.inc ns px sx body) st { st with err := true })
    (inc : ∀ {d ns px sx body st st2}, d + 1 < maxRecurse → Q (d + 1) body (st.enter ns px sx) st2 →
      P d (.inc ns px sx body) st (st.leave st2))
    (nil : ∀ {d st}, Q d .nil st st)
    (stop : ∀ {d i r st st'}, P d i st st' → st'.err = true → Q d (.cons i r) st st')
    (cons : ∀ {d i r st st' st''}, P d i st st' → st'.err = false → Q d r st' st'' → Q d (.cons i r) st st'') :
    Impl.Run P Q :=
  ⟨item, items⟩
where
  item (d : Nat) (i : Item) (st : St) : P d i st (Impl.item d i st) := by
    cases i with
    | inc ns px sx body =>
      rw [item_inc]
      split
      · exact limit ‹_›
      · exact inc (Nat.not_le.1 ‹_›) (items _ body _)
    | _ => exact line (item_line d st rfl)
  items (d : Nat) (its : Items) (st : St) : Q d its st (Impl.items d its st) := by
    cases its with
    | nil => exact nil
    | cons i r =>
      rw [items_cons]
      split
      · exact stop (item d i st) ‹_›
      · exact cons (item d i st) (Bool.eq_false_iff.2 ‹_›) (items d r _)

/-- **The recursion limit, both ways**: a run started below the limit raises GD_E_RECURSE_LEVEL exactly
    when the error was already up or the includes nest to the limit. -/
theorem run_err : Impl.Run
    (fun d i st st' => d < maxRecurse → (st'.err = true ↔ st.err = true ∨ maxRecurse ≤ d + i.depth))
    (fun d its st st' => d < maxRecurse → (st'.err = true ↔ st.err = true ∨ maxRecurse ≤ d + its.depth)) :=
  Impl.run_induct
    (line := fun hl hd => by rw [hl.depth, hl.err]; exact (or_iff_left (Nat.not_le.2 hd)).symm)
    (limit := fun h _ => iff_of_true rfl (.inr (Nat.le_trans h (Nat.add_le_add_left (Nat.le_add_left ..) _))))
    (inc := fun h hQ _ => by rw [St.leave_err, hQ h, St.enter_err, Item.depth, Nat.add_right_comm, Nat.add_assoc])
    (nil := fun hd => (or_iff_left (Nat.not_le.2 hd)).symm)
    (stop := fun hP he hd => by
      rw [Items.depth, ← Nat.add_max_add_left, Std.le_max, ← or_assoc, ← hP hd]
      exact iff_of_true he (.inl he))
    (cons := fun hP _ hQ hd => by
      rw [Items.depth, ← Nat.add_max_add_left, Std.le_max, ← or_assoc, ← hP hd]
      exact hQ hd)

end GdModel.Scope
