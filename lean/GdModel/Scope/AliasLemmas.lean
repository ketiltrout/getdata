/- Soundness of the C-shaped alias resolver (GdModel.Scope.Alias.Impl) with
   respect to the documented meaning (`Reaches`). -/
import GdModel.Scope.Alias
namespace GdModel.Scope.Alias
open GdModel.Scope

/-- every ultimate target recorded is the real field the alias chain ends at -/
def Sound (tab : Table) (ult : List (Option Nat)) : Prop := ∀ i j, getO ult i = some j → Reaches tab i j

theorem next_isAlias {tab : Table} {l k : Nat} : next tab l = some k → isAlias tab l = true ∧ k < tab.length := by
  unfold next isAlias
  match tab[l]? with
  | none | some ⟨_, none⟩ => nofun
  | some ⟨_, some t⟩ => exact fun h => ⟨rfl, (List.findIdx?_eq_some_iff_getElem.1 h).1⟩

theorem Reaches.of_next {tab : Table} {i k j : Nat} (hn : next tab i = some k) (hr : Reaches tab k j) :
    Reaches tab i j :=
  .step i k j (next_isAlias hn).1 hn hr

theorem walk_ult (tab : Table) (fuel l : Nat) (lk : Links) (vis : List Nat) :
    (Impl.walk tab fuel l lk vis).1.ult = lk.ult := by
  fun_induction Impl.walk tab fuel l lk vis <;> first | rfl | assumption

/-- When the walk finds a target, everything it visited reaches that target.  What was visited before
    `l` leads to `l` (`hv`), so it is enough that the walk goes on from `l` to the target. -/
theorem walk_sound (tab : Table) (fuel l : Nat) (lk : Links) (vis : List Nat) (j : Nat)
    (hs : Sound tab lk.ult) (hv : ∀ j, Reaches tab l j → ∀ v ∈ vis, Reaches tab v j)
    (h : (Impl.walk tab fuel l lk vis).2.2 = some j) :
    ∀ v ∈ (Impl.walk tab fuel l lk vis).2.1, Reaches tab v j := by
  have fin : ∀ {l vis j}, (∀ j, Reaches tab l j → ∀ v ∈ vis, Reaches tab v j) → Reaches tab l j →
      ∀ v ∈ vis ++ [l], Reaches tab v j :=
    fun hv hr => List.forall_mem_append.2 ⟨hv _ hr, List.forall_mem_singleton.2 hr⟩
  fun_induction Impl.walk tab fuel l lk vis
  case case3 hn hna =>   -- the next entry is a real field
    cases h
    exact fin hv (.of_next hn (.base _ (next_isAlias hn).2 (by simpa using hna)))
  case case4 ti hn _ _ hu =>   -- the next entry is an alias resolved earlier
    cases h
    exact fin hv (.of_next hn (hs ti _ hu))
  case case6 ti hn _ _ _ ih =>   -- the walk goes on from the next entry
    exact ih hs (fun j hr => fin hv (.of_next hn hr)) h
  all_goals cases h   -- out of fuel, dangling, or a loop: no target

theorem Sound.set {tab : Table} {ult : List (Option Nat)} {i : Nat} {t : Option Nat} (hs : Sound tab ult)
    (hv : ∀ j, t = some j → Reaches tab i j) : Sound tab (ult.set i t) := by
  intro k j h
  by_cases e : i = k
  · subst e
    rw [getO, List.getElem?_set_self'] at h
    revert h
    cases ult[i]? with
    | none => nofun
    | some _ => exact hv j
  · rw [getO, List.getElem?_set_ne e] at h
    exact hs k j h

theorem Sound.foldl_set {tab : Table} {t : Option Nat} {vis : List Nat}
    (hv : ∀ j, t = some j → ∀ v ∈ vis, Reaches tab v j) {ult : List (Option Nat)} (hs : Sound tab ult) :
    Sound tab (vis.foldl (fun u i => u.set i t) ult) := by
  induction vis generalizing ult with
  | nil => exact hs
  | cons a r ih =>
    exact ih (fun j hj v hm => hv j hj v (List.mem_cons_of_mem _ hm))
      (hs.set fun j hj => hv j hj a List.mem_cons_self)

theorem resolve_sound (tab : Table) (e : Nat) (lk : Links) (hs : Sound tab lk.ult) :
    Sound tab (Impl.resolve tab e lk).ult := by
  unfold Impl.resolve
  have hu := walk_ult tab (tab.length + 1) e lk []
  have hw := walk_sound tab (tab.length + 1) e lk []
  generalize Impl.walk tab (tab.length + 1) e lk [] = r at hu hw
  obtain ⟨lk', vis, t⟩ := r
  exact Sound.foldl_set (fun j hj => hw j hs nofun hj) (hu ▸ hs)

theorem clear_sound (tab : Table) (n : Nat) : Sound tab (Links.clear n).ult := by
  intro i j h
  rw [Links.clear, getO, List.getElem?_replicate] at h
  split at h <;> cases h

/-- a pass whose every step resolves the entry it is at or leaves the links alone (any entries, in any
    order, under any guard) keeps every recorded target right -/
theorem resolveAll_sound (tab : Table) {f : Links → Nat → Links}
    (hf : ∀ lk u, f lk u = Impl.resolve tab u lk ∨ f lk u = lk) (us : List Nat) (lk : Links)
    (hs : Sound tab lk.ult) : Sound tab (us.foldl f lk).ult := by
  induction us generalizing lk with
  | nil => exact hs
  | cons a r ih =>
    refine ih _ ?_
    rcases hf lk a with e | e <;> rw [e]
    · exact resolve_sound tab a lk hs
    · exact hs

end GdModel.Scope.Alias
