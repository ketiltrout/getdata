/-
  The refinement theorem: for every field tree with positive sample rates,
  an aligned read returns exactly the window of `Spec.sample`, clipped at the
  end-of-field.  Induction on the tree; nothing is enumerated.
-/
import GdModel.Field.Lemmas

namespace GdModel.Field
variable {α : Type}

/-- every RAW field has a positive number of samples per frame -/
def Fld.WF : Fld α → Bool
  | .raw spf _ _ _ => decide (0 < spf)
  | .index _ => true
  | .map1 _ x => x.WF
  | .phase _ x => x.WF
  | .map2 _ a b => a.WF && b.WF
  | .map3 _ a b c => a.WF && b.WF && c.WF

theorem Fld.spf_pos (f : Fld α) (h : f.WF = true) : 0 < f.spf := by
  induction f with
  | raw spf _ _ _ => exact of_decide_eq_true h
  | index _ => exact Nat.one_pos
  | map1 _ x ih => exact ih h
  | phase _ x ih => exact ih h
  | map2 _ a _ iha _ => exact iha (Bool.and_eq_true_iff.mp h).1
  | map3 _ a _ _ iha _ _ => exact iha (Bool.and_eq_true_iff.mp (Bool.and_eq_true_iff.mp h).1).1

/-- what an aligned read must return -/
def ReadOK (junk : α) (f : Fld α) (s : Int) (n : Nat) : Prop :=
  (Impl.read junk f s n).length = count (Spec.eof f) s n ∧
  ∀ i, i < count (Spec.eof f) s n → (Impl.read junk f s n)[i]? = Spec.sample f (s + i)

theorem ReadOK.length_eq {junk : α} {f : Fld α} {s : Int} {n : Nat} (h : ReadOK junk f s n) :
    (Impl.read junk f s n).length = count (Spec.eof f) s n :=
  h.1

theorem ReadOK.getElem?_eq {junk : α} {f : Fld α} {s : Int} {n i : Nat} (h : ReadOK junk f s n)
    (hi : i < count (Spec.eof f) s n) : (Impl.read junk f s n)[i]? = Spec.sample f (s + i) :=
  h.2 i hi

/-- the samples a correct read returns are the defined ones, whatever the default -/
theorem ReadOK.sample_eq {junk : α} {f : Fld α} {s : Int} {n i : Nat} (h : ReadOK junk f s n) (d : α)
    (hi : i < count (Spec.eof f) s n) :
    Spec.sample f (s + i) = some ((Impl.read junk f s n).getD i d) := by
  rw [← h.getElem?_eq hi, List.getD_eq_getElem?_getD, List.getElem?_eq_getElem (h.length_eq ▸ hi)]
  rfl

/-- One secondary input of rate `r2` under a first input of rate `r1`, read
    from an aligned start for the `count e1 s n` samples that the inputs before
    it have left: the adjusted count is the window clipped at the combined end,
    and the kernel's index finds the sample the Standards name. -/
theorem secondary_ok {junk : α} {b : Fld α} (e1 : Option Int) {r1 r2 : Nat} (n : Nat) {s : Int} (h1 : 0 < r1)
    (h2 : 0 < r2) (hs : 0 ≤ s) (hal : s * r2 % r1 = 0)
    (ihb : ReadOK junk b (s * r2 / r1) (ceilDiv (count e1 s n * r2) r1)) :
    let B := Impl.read junk b (Impl.firstSamp2 s r2 r1) (ceilDiv (count e1 s n * r2) r1)
    min (count e1 s n) (B.length * r1 / r2) = count (Spec.eofMin e1 (Spec.eof b) r1 r2) s n ∧
    ∀ i, i < count (Spec.eofMin e1 (Spec.eof b) r1 r2) s n →
      Spec.sample b ((s + i) * r2 / r1) = some (B.getD (i * r2 / r1) junk) := by
  rw [firstSamp2_of_nonneg hs]
  intro B
  have hq : s * r2 / r1 * r1 = s * r2 := Int.ediv_mul_cancel (Int.dvd_of_emod_eq_zero hal)
  have hk : min (count e1 s n) (B.length * r1 / r2) = count (Spec.eofMin e1 (Spec.eof b) r1 r2) s n := by
    rw [ihb.length_eq, count_eofMin]; exact nr_eq h1 h2 hq
  refine ⟨hk, fun i hi => ?_⟩
  have hj : i * r2 / r1 < B.length := by
    have := idx_lt_of_lt_scaled i B.length h1 h2
      (by exact_mod_cast Nat.lt_of_lt_of_le (hk ▸ hi) (Nat.min_le_right _ _))
    exact_mod_cast this
  rw [align_index h1 hq, ihb.sample_eq junk (ihb.length_eq ▸ hj)]

/-- **Refinement theorem (C01, C16).**  For every field tree with positive
    sample rates and every aligned window, the C-shaped reader returns exactly
    `min n (eof − s)` samples, and sample `i` of the result is the value the
    Standards define for absolute sample `s + i`. -/
theorem read_spec (junk : α) (f : Fld α) :
    f.WF = true → ∀ (s : Int) (n : Nat), Aligned f s = true → ReadOK junk f s n := by
  induction f with
  | raw spf off pad data =>
    intro _ s n _
    -- `count (Spec.eof (.raw ..)) s n` unfolds to the `min n (off + data.length - s).toNat` of `readRaw_length`
    exact ⟨readRaw_length off pad data s n, fun i hi =>
      readRaw_get spf off pad data s n i (Nat.lt_of_lt_of_le hi (count_le _ s n))⟩
  | index fn =>
    intro _ s n _
    refine ⟨(List.length_map _).trans List.length_range, fun i (hi : i < n) => ?_⟩
    rw [Impl.read, List.getElem?_map, List.getElem?_range hi]
    rfl
  | map1 g x ih =>
    intro hwf s n hal
    have hx := ih hwf s n hal
    refine ⟨?_, fun i hi => ?_⟩
    · rw [Impl.read, List.length_map]; exact hx.length_eq
    · rw [Impl.read, Spec.sample, List.getElem?_map, hx.getElem?_eq hi]
  | phase sh x ih =>
    intro hwf s n hal
    have hx := ih hwf (s + sh) n hal
    rw [ReadOK, Spec.eof, count_shift, Impl.read]
    refine ⟨hx.length_eq, fun i hi => ?_⟩
    rw [Spec.sample, Spec.eof, below_shift, Int.add_right_comm, if_pos (lt_count_iff.mp hi).2]
    exact hx.getElem?_eq hi
  | map2 g a b iha ihb =>
    intro hwf s n hal
    simp only [Fld.WF, Bool.and_eq_true] at hwf
    simp only [Aligned, Bool.and_eq_true, decide_eq_true_eq] at hal
    obtain ⟨⟨⟨hs, hmod⟩, hala⟩, halb⟩ := hal
    have h2 := Fld.spf_pos b hwf.2
    have hA := iha hwf.1 s n hala
    obtain ⟨kb, gb⟩ := secondary_ok (Spec.eof a) n (Fld.spf_pos a hwf.1) h2 hs hmod (ihb hwf.2 _ _ halb)
    -- the reader is its kernel loop over the adjusted count, which is the window's count (`kb`)
    rw [ReadOK, Spec.eof, read_map2 h2]
    dsimp only
    rw [hA.length_eq, kb]
    refine ⟨kernel2_length, fun i hi => ?_⟩
    rw [kernel2_get hi, Spec.sample, Spec.eof, if_pos (lt_count_iff.mp hi).2,
      hA.sample_eq junk (Nat.lt_of_lt_of_le hi (count_eofMin_le ..)), gb i hi]
  | map3 g a b c iha ihb ihc =>
    intro hwf s n hal
    simp only [Fld.WF, Bool.and_eq_true] at hwf
    simp only [Aligned, Bool.and_eq_true, decide_eq_true_eq] at hal
    obtain ⟨⟨⟨⟨⟨hs, hmod2⟩, hmod3⟩, hala⟩, halb⟩, halc⟩ := hal
    have h1 := Fld.spf_pos a hwf.1.1
    have h2 := Fld.spf_pos b hwf.1.2
    have h3 := Fld.spf_pos c hwf.2
    have hA := iha hwf.1.1 s n hala
    obtain ⟨kb, gb⟩ := secondary_ok (Spec.eof a) n h1 h2 hs hmod2 (ihb hwf.1.2 _ _ halb)
    obtain ⟨kc, gc⟩ := secondary_ok (Spec.eofMin (Spec.eof a) (Spec.eof b) a.spf b.spf) n h1 h3 hs hmod3
      (ihc hwf.2 _ _ halc)
    rw [ReadOK, Spec.eof, read_map3 h2 h3]
    dsimp only
    rw [hA.length_eq, kb, kc]
    refine ⟨kernel3_length, fun i hi => ?_⟩
    have hi2 := Nat.lt_of_lt_of_le hi (count_eofMin_le ..)
    rw [kernel3_get hi, Spec.sample, Spec.eof, if_pos (lt_count_iff.mp hi).2,
      hA.sample_eq junk (Nat.lt_of_lt_of_le hi2 (count_eofMin_le ..)), gb i hi2, gc i hi]

end GdModel.Field
