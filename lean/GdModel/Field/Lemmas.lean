/-
  What each piece of `Impl.read` does: the RAW reader, the kernel loops, the
  rate arithmetic of the multi-input readers, and how many samples of a window
  lie below an end-of-field (`count`).  Used by Field/ReadSpec.
-/
import GdModel.Field.Basic

namespace GdModel.Field
variable {α : Type}

theorem readRaw_of_le (off : Nat) (pad : α) (data : List α) (d n : Nat) :
    Impl.readRaw off pad data (off + d) n = (data.drop d).take n := by
  have h : ¬ ((off : Int) + d < off) := Int.not_lt.mpr (Int.le_add_of_nonneg_right (Int.natCast_nonneg d))
  have h0 : (off : Int) + d + (0 : Nat) - off = d := by
    rw [Int.natCast_zero, Int.add_zero, Int.add_comm, Int.add_sub_cancel]
  simp only [Impl.readRaw, if_neg h, h0, Int.toNat_natCast]
  rfl

theorem readRaw_of_lt {off : Nat} {pad : α} {data : List α} {s : Int} {d n : Nat}
    (h : s < off) (hd : s + d = off) :
    Impl.readRaw off pad data s n = (List.replicate d pad ++ data).take n := by
  have h1 : (off : Int) - s = d := Int.sub_eq_iff_eq_add'.mpr hd.symm
  have h0 : s + (min n d : Nat) - off ≤ 0 := by
    rw [← hd, Int.add_sub_add_left]
    exact Int.sub_nonpos_of_le (Int.ofNat_le.mpr (Nat.min_le_right n d))
  -- `zp = min n d` pads, nothing is dropped from `data`, and `take n` splits over the append
  simp only [Impl.readRaw, if_pos h, h1, Int.toNat_natCast, Int.toNat_eq_zero.mpr h0, List.drop_zero,
    List.take_append, List.take_replicate, List.length_replicate, ← Nat.sub_eq_sub_min]

theorem readRaw_length (off : Nat) (pad : α) (data : List α) (s : Int) (n : Nat) :
    (Impl.readRaw off pad data s n).length = min n ((off : Int) + data.length - s).toNat := by
  rcases Int.lt_or_le s off with h | h
  · obtain ⟨d, hd⟩ := Int.le.dest (Int.le_of_lt h)
    rw [readRaw_of_lt h hd, ← hd, Int.add_assoc, Int.add_comm, Int.add_sub_cancel,
      ← Int.natCast_add, Int.toNat_natCast, List.length_take, List.length_append, List.length_replicate]
  · obtain ⟨d, rfl⟩ := Int.le.dest h
    rw [readRaw_of_le, Int.add_sub_add_left, Int.toNat_sub, List.length_take, List.length_drop]

theorem readRaw_get (spf off : Nat) (pad : α) (data : List α) (s : Int) (n i : Nat) (hn : i < n) :
    (Impl.readRaw off pad data s n)[i]? = Spec.sample (.raw spf off pad data) (s + i) := by
  unfold Spec.sample
  rcases Int.lt_or_le s off with h | h
  · obtain ⟨d, hd⟩ := Int.le.dest (Int.le_of_lt h)
    rw [readRaw_of_lt h hd, ← hd, List.getElem?_take_of_lt hn]
    simp only [Int.add_lt_add_iff_left, Int.ofNat_lt, Int.add_sub_add_left, Int.toNat_sub,
      List.getElem?_append, List.length_replicate, List.getElem?_replicate]
    split <;> rfl
  · obtain ⟨d, rfl⟩ := Int.le.dest h
    have h1 : ¬ ((off : Int) + d + i < off) := by omega
    rw [readRaw_of_le, if_neg h1, List.getElem?_take_of_lt hn, List.getElem?_drop, Int.add_assoc,
      Int.add_comm, Int.add_sub_cancel, ← Int.natCast_add, Int.toNat_natCast]

theorem kernel2_length {junk : α} {g : α → α → α} {A B : List α} {r1 r2 n : Nat} :
    (Impl.kernel2 junk g A B r1 r2 n).length = n := by
  rw [Impl.kernel2, List.length_map, List.length_range]

theorem kernel2_get {junk : α} {g : α → α → α} {A B : List α} {r1 r2 n i : Nat} (hi : i < n) :
    (Impl.kernel2 junk g A B r1 r2 n)[i]? = some (g (A.getD i junk) (B.getD (i * r2 / r1) junk)) := by
  rw [Impl.kernel2, List.getElem?_map, List.getElem?_range hi]; rfl

theorem kernel3_length {junk : α} {g : α → α → α → α} {A B C : List α} {r1 r2 r3 n : Nat} :
    (Impl.kernel3 junk g A B C r1 r2 r3 n).length = n := by
  rw [Impl.kernel3, List.length_map, List.length_range]

theorem kernel3_get {junk : α} {g : α → α → α → α} {A B C : List α} {r1 r2 r3 n i : Nat} (hi : i < n) :
    (Impl.kernel3 junk g A B C r1 r2 r3 n)[i]? =
      some (g (A.getD i junk) (B.getD (i * r2 / r1) junk) (C.getD (i * r3 / r1) junk)) := by
  rw [Impl.kernel3, List.getElem?_map, List.getElem?_range hi]; rfl

theorem ceilDiv_le_iff {X r m : Nat} (hr : 0 < r) : ceilDiv X r ≤ m ↔ X ≤ m * r := by
  rw [ceilDiv, ← Nat.lt_succ_iff, Nat.div_lt_iff_lt_mul hr, Nat.succ_mul,
    Nat.sub_lt_iff_lt_add (Nat.le_add_left_of_le hr), Nat.add_right_comm, Nat.add_lt_add_iff_right, Nat.lt_succ_iff]

theorem lt_ceilDiv_mul_lt (X r t : Nat) (hr : 0 < r) (ht : t < ceilDiv X r) : t * r < X :=
  Nat.lt_of_not_le fun h => Nat.not_le.mpr ht ((ceilDiv_le_iff hr).mpr h)

/-- for a non-negative start, C's truncating division is the flooring one -/
theorem firstSamp2_of_nonneg {s : Int} (hs : 0 ≤ s) (r2 r1 : Nat) :
    Impl.firstSamp2 s r2 r1 = s * r2 / r1 :=
  Int.tdiv_eq_ediv_of_nonneg (Int.mul_nonneg hs (Int.natCast_nonneg r2))

/-- The alignment identity: when `s·r2` is a multiple of `r1`, the secondary
    index of derived sample `s+i` is the start index plus the kernel's `i·r2/r1`. -/
theorem align_index {s q : Int} {i r1 r2 : Nat} (h1 : 0 < r1) (hq : q * r1 = s * r2) :
    (s + i) * r2 / r1 = q + (i * r2 / r1 : Nat) := by
  rw [Int.add_mul, ← hq, Int.add_comm, Int.add_mul_ediv_right _ _ (Int.ne_of_gt (Int.natCast_pos.mpr h1)),
    Int.add_comm, Int.natCast_ediv, Int.natCast_mul]

/-- …and it fails without alignment (known finding 5.1): first = 1, i = 1, rates 2:1. -/
theorem align_index_counterexample :
    ¬ ∀ s i r1 r2 : Nat, 0 < r1 → (s + i) * r2 / r1 = s * r2 / r1 + i * r2 / r1 := by
  intro h
  have := h 1 1 2 1 (by decide)
  revert this; decide

/-- The short-read adjustment of the multi-input readers keeps the samples
    whose secondary index was read: `n2·r1/r2` of them, at most `n1`. -/
theorem adjust_eq_min {r1 r2 n1 n2 : Nat} (h2 : 0 < r2) :
    (if n2 * r1 < n1 * r2 then n2 * r1 / r2 else n1) = min n1 (n2 * r1 / r2) := by
  split
  · next h => exact (Nat.min_eq_right (Nat.le_of_lt ((Nat.div_lt_iff_lt_mul h2).mpr h))).symm
  · next h => exact (Nat.min_eq_left ((Nat.le_div_iff_mul_le h2).mpr (Nat.not_lt.mp h))).symm

theorem ite_nil_eq {c : Prop} [Decidable c] {x k : List α} (hc : c → k = []) (hx : x = k) :
    (if c then [] else x) = k := by
  split
  · next h => exact (hc h).symm
  · exact hx

/-- The readers leave early when an input returns no samples; the adjusted count
    is then 0, so they return what the kernel loop would. -/
theorem read_map2 {junk : α} {g : α → α → α} {a b : Fld α} {s : Int} {n : Nat} (h2 : 0 < b.spf) :
    Impl.read junk (.map2 g a b) s n =
      let A := Impl.read junk a s n
      let B := Impl.read junk b (Impl.firstSamp2 s b.spf a.spf) (ceilDiv (A.length * b.spf) a.spf)
      Impl.kernel2 junk g A B a.spf b.spf (min A.length (B.length * a.spf / b.spf)) := by
  rw [Impl.read]
  simp only [adjust_eq_min h2]
  refine ite_nil_eq (fun h => ?_) rfl
  rw [h, Nat.zero_min]; rfl

theorem read_map3 {junk : α} {g : α → α → α → α} {a b c : Fld α} {s : Int} {n : Nat}
    (h2 : 0 < b.spf) (h3 : 0 < c.spf) :
    Impl.read junk (.map3 g a b c) s n =
      let A := Impl.read junk a s n
      let B := Impl.read junk b (Impl.firstSamp2 s b.spf a.spf) (ceilDiv (A.length * b.spf) a.spf)
      let n1 := min A.length (B.length * a.spf / b.spf)
      let C := Impl.read junk c (Impl.firstSamp2 s c.spf a.spf) (ceilDiv (n1 * c.spf) a.spf)
      Impl.kernel3 junk g A B C a.spf b.spf c.spf (min n1 (C.length * a.spf / c.spf)) := by
  rw [Impl.read]
  simp only [adjust_eq_min h2, adjust_eq_min h3]
  refine ite_nil_eq (fun h => ?_) (ite_nil_eq (fun h => ?_) (ite_nil_eq (fun h => ?_) rfl))
  · rw [h, Nat.zero_min, Nat.zero_min]; rfl
  · rw [h, Nat.zero_mul, Nat.zero_div, Nat.min_zero, Nat.zero_min]; rfl
  · rw [h, Nat.zero_mul, Nat.zero_div, Nat.min_zero]; rfl

/-- the floor adjunction twice: `k < ⌊e·r1/r2⌋` is `(k+1)·r2 ≤ e·r1`, and `⌊k·r2/r1⌋ < e` is `k·r2 < e·r1` -/
theorem idx_lt_of_lt_scaled (k e : Int) {r1 r2 : Nat} (h1 : 0 < r1) (h2 : 0 < r2)
    (h : k < e * r1 / r2) : k * r2 / r1 < e := by
  have h3 : (k + 1) * r2 ≤ e * r1 := (Int.le_ediv_iff_mul_le (Int.natCast_pos.mpr h2)).mp h
  rw [Int.ediv_lt_iff_lt_mul (Int.natCast_pos.mpr h1)]
  exact Int.lt_of_lt_of_le (Int.mul_lt_mul_of_pos_right (Int.lt_succ k) (Int.natCast_pos.mpr h2)) h3

/-- `s = q·r1/r2` exactly, so it can be pulled out of the floor -/
theorem toNat_scaled_sub {e s q : Int} {r1 r2 : Nat} (h2 : 0 < r2) (hq : q * r1 = s * r2) :
    (e * r1 / r2 - s).toNat = (e - q).toNat * r1 / r2 := by
  have hr2 : (0 : Int) < r2 := Int.natCast_pos.mpr h2
  rcases Int.le_total q e with h | h
  · obtain ⟨E, hE⟩ := Int.le.dest h
    rw [Int.sub_eq_iff_eq_add'.mpr hE.symm, ← hE, Int.add_mul, hq, Int.add_comm,
      Int.add_mul_ediv_right _ _ (Int.ne_of_gt hr2), Int.add_sub_cancel, Int.toNat_natCast,
      ← Int.natCast_mul, ← Int.natCast_ediv, Int.toNat_natCast]
  · have h3 : e * r1 / r2 ≤ s := by
      have := Int.ediv_le_ediv hr2 (Int.mul_le_mul_of_nonneg_right h (Int.natCast_nonneg r1))
      rwa [hq, Int.mul_ediv_cancel _ (Int.ne_of_gt hr2)] at this
    rw [Int.toNat_eq_zero.mpr (Int.sub_nonpos_of_le h3), Int.toNat_eq_zero.mpr (Int.sub_nonpos_of_le h),
      Nat.zero_mul, Nat.zero_div]

/-- number of samples a read of `n` from `s` should return for end-of-field `e` -/
def count (e : Option Int) (s : Int) (n : Nat) : Nat :=
  match e with
  | none => n
  | some e => min n (e - s).toNat

/-- `count` counts the samples of the window that lie below the end, so what it does to a
    shifted or combined end follows from what `below` does (by `eq_of_forall_lt_iff`). -/
theorem lt_count_iff {e : Option Int} {s : Int} {n i : Nat} :
    i < count e s n ↔ i < n ∧ Spec.below e (s + i) = true := by
  cases e with
  | none => exact ⟨fun h => ⟨h, rfl⟩, And.left⟩
  | some e =>
    rw [count, Spec.below, Nat.lt_min, Int.lt_toNat, decide_eq_true_eq]
    exact and_congr_right' ⟨Int.add_lt_of_lt_sub_left, Int.lt_sub_left_of_add_lt⟩

theorem count_le (e : Option Int) (s : Int) (n : Nat) : count e s n ≤ n :=
  Nat.le_of_not_lt fun h => Nat.lt_irrefl n (lt_count_iff.mp h).1

theorem eq_of_forall_lt_iff {a b : Nat} (h : ∀ i, i < a ↔ i < b) : a = b :=
  Nat.le_antisymm (Nat.le_of_not_lt fun hlt => Nat.lt_irrefl b ((h b).mp hlt))
    (Nat.le_of_not_lt fun hlt => Nat.lt_irrefl a ((h a).mpr hlt))

theorem below_shift (e : Option Int) (sh k : Int) : Spec.below (e.map (· - sh)) k = Spec.below e (k + sh) := by
  cases e with
  | none => rfl
  | some e => exact decide_eq_decide.mpr ⟨Int.add_lt_of_lt_sub_right, Int.lt_sub_right_of_add_lt⟩

theorem count_shift (e : Option Int) (sh s : Int) (n : Nat) :
    count (e.map (· - sh)) s n = count e (s + sh) n :=
  eq_of_forall_lt_iff fun i => by rw [lt_count_iff, lt_count_iff, below_shift, Int.add_right_comm]

theorem below_eofMin (ea eb : Option Int) (r1 r2 : Nat) (k : Int) :
    Spec.below (Spec.eofMin ea eb r1 r2) k =
      (Spec.below ea k && Spec.below (Spec.eofMin none eb r1 r2) k) := by
  cases ea <;> cases eb <;> simp [Spec.eofMin, Spec.below, Int.lt_min]

/-- a secondary input clips what the first input leaves -/
theorem count_eofMin (ea eb : Option Int) (r1 r2 : Nat) (s : Int) (n : Nat) :
    count (Spec.eofMin ea eb r1 r2) s n = count (Spec.eofMin none eb r1 r2) s (count ea s n) :=
  eq_of_forall_lt_iff fun i => by
    rw [lt_count_iff, lt_count_iff, lt_count_iff, below_eofMin, Bool.and_eq_true, and_assoc]

theorem count_eofMin_le (ea eb : Option Int) (r1 r2 : Nat) (s : Int) (n : Nat) :
    count (Spec.eofMin ea eb r1 r2) s n ≤ count ea s n :=
  count_eofMin .. ▸ count_le ..

theorem below_secondary {ea eb : Option Int} {r1 r2 : Nat} {k : Int} (h1 : 0 < r1) (h2 : 0 < r2)
    (h : Spec.below (Spec.eofMin ea eb r1 r2) k = true) :
    Spec.below ea k = true ∧ Spec.below eb (k * r2 / r1) = true := by
  rw [below_eofMin, Bool.and_eq_true] at h
  refine ⟨h.1, ?_⟩
  cases eb with
  | none => rfl
  | some eb => exact decide_eq_true (idx_lt_of_lt_scaled k eb h1 h2 (of_decide_eq_true h.2))

/-- The count arithmetic of the multi-input readers (`num_samp2`, short-read
    adjustment): of `n1` samples from an aligned start `s`, those below the
    scaled end of the secondary input remain. -/
theorem nr_eq {e : Option Int} {s q : Int} {r1 r2 n1 : Nat} (h1 : 0 < r1) (h2 : 0 < r2)
    (hq : q * r1 = s * r2) :
    min n1 (count e q (ceilDiv (n1 * r2) r1) * r1 / r2) = count (Spec.eofMin none e r1 r2) s n1 := by
  -- the `num_samp2` samples asked of the secondary input are enough for all `n1`
  have hc : n1 ≤ ceilDiv (n1 * r2) r1 * r1 / r2 :=
    (Nat.le_div_iff_mul_le h2).mpr ((ceilDiv_le_iff h1).mp (Nat.le_refl _))
  cases e with
  | none => exact Nat.min_eq_left hc
  | some e =>
    show min n1 (min _ (e - q).toNat * r1 / r2) = min n1 (e * r1 / r2 - s).toNat
    rw [toNat_scaled_sub h2 hq]
    rcases Nat.le_total (ceilDiv (n1 * r2) r1) (e - q).toNat with h | h
    · rw [Nat.min_eq_left h, Nat.min_eq_left hc,
        Nat.min_eq_left (Nat.le_trans hc (Nat.div_le_div_right (Nat.mul_le_mul_right r1 h)))]
    · rw [Nat.min_eq_right h]

end GdModel.Field
