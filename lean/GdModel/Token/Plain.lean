/-
  Tokenisation in Standards Versions <= 5 (`v6 = false`: backslash and quote are
  ordinary bytes): the C-shaped state machine `Impl.tokenise` and the
  Standards-shaped reader `Spec.tokenise` produce the same tokens for every byte
  string, as long as `tok_want` is out of reach.  Both are shown equal to one structurally recursive splitter (`run_ref`,
  `spec_ref`); `Props.C08.tokenise_impl_eq_spec_v5` puts the two together.
-/
import GdModel.Token.Step
import GdModel.Token.Spec
namespace GdModel.Token.Plain
open GdModel.Token

/-- split at whitespace; `#` ends the line.  The arguments are the fields `done`, `cur`, `ws` of
    the C-shaped machine's state. -/
def ref (done : List (List Nat)) (cur : List Nat) (ws : Bool) : List Nat → List (List Nat)
  | [] => Impl.out { done, cur, ws }
  | c :: rest =>
    if isWs c then (if ws then ref done cur true rest else ref (cur.reverse :: done) [] true rest)
    else if c = 35 then Impl.out { done, cur, ws }
    else ref done (c :: cur) false rest

open Impl

/-- An equality, so the rules of `Impl.Step`, which only say what an iteration may do, are not
    enough: `step` is unfolded on the branch conditions known here. -/
theorem run_ref (want : Nat) (input : List Nat) (s : St) (he : s.escaped = false) (hq : s.quoted = false)
    (hn : s.nCols + input.length < want) :
    out (run false want s input).1 = ref s.done s.cur s.ws input ∧
      (run false want s input).1.escaped = false ∧ (run false want s input).1.quoted = false ∧
      (run false want s input).1.err = s.err := by
  induction input generalizing s with
  | nil => exact ⟨rfl, he, hq, rfl⟩
  | cons c rest ih =>
    rw [List.length_cons] at hn
    rw [run, step, if_neg (he ▸ Bool.false_ne_true), if_neg (nomatch ·.2), if_neg (nomatch ·.2), ref]
    simp only [show (!s.quoted) = true by rw [hq]; rfl, true_and]
    by_cases hc : isWs c = true
    · have hn' : s.nCols + rest.length < want := by omega
      simp only [if_pos hc]
      cases hw : s.ws <;> simp only [Bool.not_false, Bool.not_true, Bool.false_eq_true, if_false, if_true]
      · exact ih { s with done := s.cur.reverse :: s.done, cur := [], ws := true } he hq hn'
      · have := ih s he hq hn'
        rwa [hw] at this
    rw [if_neg hc, if_neg hc]
    by_cases h35 : c = 35
    · rw [if_pos h35, if_pos h35]
      exact ⟨rfl, he, hq, rfl⟩
    rw [if_neg h35, if_neg h35]
    -- `tok_want` is not reached: a token is started
    obtain ⟨-, h⟩ | ⟨n, hn', hs⟩ := startTok_cases want s
    · omega
    rw [hs]
    exact ih (emit { s with nCols := n, ws := false } c) he hq (by show n + _ < _; omega)

open Spec

/-- The two loops of the reader against `ref`, by one induction.  First part: inside a token with
    `cur` read so far, `body` (at the fuel `tokens` calls it with, one more than what is left)
    returns some token and rest, and `tokens` on that rest ends where `ref` does.  Second part:
    between tokens, `tokens` ends where `ref` does.  `F` is the fuel of `tokens`; it falls by one
    per whitespace byte and per token, so any `F` above the length will do. -/
theorem spec_ref (l : List Nat) :
    (∀ cur, ∃ tok r, body false (l.length + 1) false cur l = .ok (tok, r) ∧
      ∀ done F, l.length ≤ F → tokens false F r (tok :: done) = ⟨ref done cur false l, none⟩) ∧
    ∀ done F, l.length < F → tokens false F l done = ⟨ref done [] true l, none⟩ := by
  induction l with
  | nil => exact ⟨fun cur => ⟨_, _, rfl, fun done F _ => by cases F <;> rfl⟩, fun done F _ => by cases F <;> rfl⟩
  | cons c rest ih =>
    obtain ⟨ihA, ihB⟩ := ih
    have hA : ∀ cur, ∃ tok r, body false (rest.length + 1 + 1) false cur (c :: rest) = .ok (tok, r) ∧
        ∀ done F, rest.length + 1 ≤ F → tokens false F r (tok :: done) = ⟨ref done cur false (c :: rest), none⟩ := by
      intro cur
      rw [body, if_neg (nomatch ·.2), if_neg (nomatch ·.2)]
      by_cases hc : isWs c = true
      · exact ⟨_, _, if_pos ⟨rfl, hc⟩, fun done F hF => by rw [ref, if_pos hc, ihB _ F hF]; rfl⟩
      rw [if_neg (hc ·.2)]
      by_cases h35 : c = 35
      · refine ⟨_, _, if_pos ⟨rfl, h35⟩, fun done F hF => ?_⟩
        obtain ⟨g, rfl⟩ : ∃ g, F = g + 1 := ⟨F - 1, by omega⟩
        rw [h35, tokens, if_neg (by decide), if_pos rfl, ref, if_neg (by decide), if_pos rfl]
        rfl
      · obtain ⟨tok, r, h1, h2⟩ := ihA (c :: cur)
        exact ⟨tok, r, by rw [if_neg (h35 ·.2), h1], fun done F hF => by rw [h2 done F (by omega), ref, if_neg hc, if_neg h35]⟩
    refine ⟨hA, fun done F hF => ?_⟩
    rw [List.length_cons] at hF
    obtain ⟨g, rfl⟩ : ∃ g, F = g + 1 := ⟨F - 1, by omega⟩
    rw [tokens, ref]
    by_cases hc : isWs c = true
    · rw [if_pos hc, if_pos hc, ihB done g (by omega)]; rfl
    rw [if_neg hc, if_neg hc]
    by_cases h35 : c = 35
    · rw [if_pos h35, if_pos h35]; rfl
    · -- the token reader starts again at `c`
      obtain ⟨tok, r, h1, h2⟩ := hA []
      rw [if_neg h35, if_neg h35, h1]
      exact (h2 done g (by omega)).trans (by rw [ref, if_neg hc, if_neg h35])

end GdModel.Token.Plain
