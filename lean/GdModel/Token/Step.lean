/-
  The loop body of `_GD_Tokenise` (`Impl.step`), taken apart once.  The octal, hex and `\u`
  escapes run the same code with different parameters (`AccMode.isDigit`, `push`, `full`,
  `bytes`), so three equations of `step` serve the three modes.  `Step` states one iteration
  as rules, one per branch (`step_sound`); an invariant of the state is then proved by
  induction over the rules, without unfolding `step` again, and `tokenise_induct` carries it
  through the loop and the end of the string.
-/
import GdModel.Token.Impl
namespace GdModel.Token

theorem hexVal_lt {c : Nat} (h : isHex c = true) : hexVal c < 16 := by
  unfold isHex at h
  unfold hexVal
  simp only [Bool.or_eq_true, Bool.and_eq_true, decide_eq_true_eq] at h
  split <;> (try split) <;> omega

theorem octVal_lt {c : Nat} (h : isOctal c = true) : c - 48 < 8 := by
  unfold isOctal at h
  simp only [Bool.and_eq_true, decide_eq_true_eq] at h
  omega

/-! The four parameters of a numeric escape.  Outside one (`.none`) they have no meaning: the `_`
    clauses give it the value of some other mode, and every lemma about them assumes `mode ≠ .none`. -/

def AccMode.isDigit : AccMode → Nat → Bool
  | .octal => isOctal
  | _ => isHex

def AccMode.push : AccMode → Nat → Nat → Nat
  | .octal, a, c => a * 8 + (c - 48)
  | _, a, c => a * 16 + hexVal c

/-- no further digit is read: the digit count is at its maximum, or another digit would
    take the value out of range -/
def AccMode.full : AccMode → Nat → Nat → Prop
  | .octal, a, n => n = 3 ∨ a > 31
  | .hex, _, n => n = 2
  | _, a, n => n = 7 ∨ a > 0x10FFFF

/-- the bytes written for the accumulated value; `none` = GD_E_FORMAT_CHARACTER -/
def AccMode.bytes : AccMode → Nat → Option (List Nat)
  | .utf8, v => utf8Encode v
  | _, v => if v = 0 then .none else some [v % 256]

namespace Impl

/-- `tok_want` is reached, or the token is started (inside a token nothing changes) -/
theorem startTok_cases (want : Nat) (s : St) :
    startTok want s = none ∧ want ≤ s.nCols ∨
      ∃ n ≤ s.nCols + 1, startTok want s = some { s with nCols := n, ws := false } := by
  unfold startTok
  cases hw : s.ws
  · exact .inr ⟨s.nCols, Nat.le_succ _, by rw [if_neg Bool.false_ne_true, ← hw]⟩
  · by_cases h : s.nCols ≥ want
    · exact .inl ⟨by rw [if_pos rfl, if_pos h], h⟩
    · exact .inr ⟨_, Nat.le_refl _, by rw [if_pos rfl, if_neg h]⟩

theorem startTok_of_not_ws {want : Nat} {s : St} (hw : s.ws = false) : startTok want s = some s := by
  simp [startTok, hw]

theorem step_esc_start (v6 : Bool) (want fuel : Nat) {s : St} {c n : Nat} (he : s.escaped = true)
    (hs : startTok want s = some { s with nCols := n, ws := false }) :
    step v6 want (fuel + 1) s c = step v6 want (fuel + 1) { s with nCols := n, ws := false } c := by
  rw [step, if_pos he, hs, step, if_pos he, startTok_of_not_ws rfl]

section numeric
variable (v6 : Bool) (want fuel : Nat) {s : St} {c : Nat}
  (he : s.escaped = true) (hw : s.ws = false) (hm : s.mode ≠ .none)
include he hw hm

theorem step_more (hd : s.mode.isDigit c = true) (hf : ¬ s.mode.full (s.mode.push s.acc c) (s.nAcc + 1)) :
    step v6 want (fuel + 1) s c = .cont { s with acc := s.mode.push s.acc c, nAcc := s.nAcc + 1 } := by
  rw [step, if_pos he, startTok_of_not_ws hw]
  obtain ⟨esc, q, ws, acc, nAcc, mode, done, cur, nCols, err⟩ := s
  cases mode
  case none => exact absurd rfl hm
  all_goals
    simp only [AccMode.isDigit] at hd
    simp only [AccMode.full, AccMode.push] at hf
    simp only [hd, if_true, Bool.not_true, Bool.false_eq_true, or_false, if_neg hf]
    rfl

theorem step_full (hd : s.mode.isDigit c = true) (hf : s.mode.full (s.mode.push s.acc c) (s.nAcc + 1)) :
    step v6 want (fuel + 1) s c =
      match s.mode.bytes (s.mode.push s.acc c) with
      | none => .stop { s with acc := s.mode.push s.acc c, nAcc := s.nAcc + 1, err := some .character }
      | some bs => .cont { emits { s with acc := s.mode.push s.acc c, nAcc := s.nAcc + 1 } bs with
          escaped := false, mode := .none } := by
  rw [step, if_pos he, startTok_of_not_ws hw]
  obtain ⟨esc, q, ws, acc, nAcc, mode, done, cur, nCols, err⟩ := s
  cases mode
  case none => exact absurd rfl hm
  all_goals
    simp only [AccMode.isDigit] at hd
    simp only [AccMode.full, AccMode.push] at hf
    simp only [hd, if_true, Bool.not_true, Bool.false_eq_true, or_false, if_pos hf, if_false, AccMode.bytes, AccMode.push]
  case utf8 => rfl
  all_goals
    split
    next h0 => simp only [h0, if_true]
    next h0 => simp only [h0, if_false]; rfl

/-- `ip--`: the byte that ends the escape is read again -/
theorem step_nondigit (hd : s.mode.isDigit c = false) :
    step v6 want (fuel + 1) s c =
      match s.mode.bytes s.acc with
      | none => .stop { s with err := some .character }
      | some bs => step v6 want fuel { emits s bs with escaped := false, mode := .none } c := by
  rw [step, if_pos he, startTok_of_not_ws hw]
  obtain ⟨esc, q, ws, acc, nAcc, mode, done, cur, nCols, err⟩ := s
  cases mode
  case none => exact absurd rfl hm
  all_goals
    simp only [AccMode.isDigit] at hd
    simp only [hd, AccMode.bytes, Bool.false_eq_true, if_false, Bool.not_false, or_true, if_true]
  case utf8 => rfl
  all_goals split <;> rfl

end numeric

/-- What one iteration of the loop body does to the state, as rules.  Every branch of `step`
    is an instance of one of them (`step_sound`); only the branch conditions that some
    invariant of the state needs are kept, so the rules say what an iteration *may* do. -/
inductive Step (c : Nat) : St → Out → Prop
  | stop : Step c s (.stop s)
  | cont : Step c s (.cont s)
  | start (n : Nat) : Step c { s with nCols := n, ws := false } o → Step c s o
  | quoteFull : Step c s (.stop { s with quoted := true })
  | quote (b : Bool) : Step c s (.cont { s with quoted := b })
  | backslash : s.escaped = false → Step c s (.cont { s with escaped := true })
  | endToken : Step c s (.cont { s with done := s.cur.reverse :: s.done, cur := [], ws := true })
  | byte : s.ws = false → Step c s (.cont (emit s c))
  | escSimple : s.ws = false → s.mode = .none → simpleEscape c = some b →
      Step c s (.cont { emit s b with escaped := false })
  | escByte : s.ws = false → s.mode = .none → Step c s (.cont { emit s c with escaped := false })
  | octal : s.escaped = true → s.mode = .none → isOctal c = true →
      Step c s (.cont { s with nAcc := 1, acc := c - 48, mode := .octal })
  | utf8 : s.escaped = true → s.mode = .none →
      Step c s (.cont { s with nAcc := 0, acc := 0, mode := .utf8 })
  | hex : s.escaped = true → s.mode = .none →
      Step c s (.cont { s with nAcc := 0, acc := 0, mode := .hex })
  | more : s.escaped = true → s.mode ≠ .none → s.mode.isDigit c = true →
      ¬ s.mode.full (s.mode.push s.acc c) (s.nAcc + 1) →
      Step c s (.cont { s with acc := s.mode.push s.acc c, nAcc := s.nAcc + 1 })
  | fullErr : s.escaped = true → s.mode ≠ .none → s.mode.isDigit c = true →
      Step c s (.stop { s with acc := s.mode.push s.acc c, nAcc := s.nAcc + 1, err := some .character })
  | full : s.escaped = true → s.ws = false → s.mode ≠ .none → s.mode.isDigit c = true →
      s.mode.bytes (s.mode.push s.acc c) = some bs →
      Step c s (.cont { emits { s with acc := s.mode.push s.acc c, nAcc := s.nAcc + 1 } bs with
        escaped := false, mode := .none })
  | nondigitErr : Step c s (.stop { s with err := some .character })
  | nondigit : s.escaped = true → s.ws = false → s.mode ≠ .none → s.mode.bytes s.acc = some bs →
      Step c { emits s bs with escaped := false, mode := .none } o → Step c s o

theorem step_sound (v6 : Bool) (want c : Nat) : ∀ (fuel : Nat) (s : St), Step c s (step v6 want fuel s c)
  | 0, _ => .stop
  | fuel + 1, s => by
    cases he : s.escaped
    · rw [step, if_neg (by simp [he])]
      by_cases h1 : c = 92 ∧ v6 = true
      · rw [if_pos h1]; exact .backslash he
      rw [if_neg h1]
      by_cases h2 : c = 34 ∧ v6 = true
      · rw [if_pos h2]
        by_cases hq : (!s.quoted) = true
        · rw [if_pos hq]
          rcases startTok_cases want s with ⟨hs, -⟩ | ⟨n, -, hs⟩ <;> rw [hs]
          · exact .quoteFull
          · exact .start n (.quote true)
        · rw [if_neg hq]; exact .quote false
      rw [if_neg h2]
      by_cases h3 : (!s.quoted) = true ∧ isWs c = true
      · rw [if_pos h3]
        by_cases hw : (!s.ws) = true
        · rw [if_pos hw]; exact .endToken
        · rw [if_neg hw]; exact .cont
      rw [if_neg h3]
      by_cases h4 : (!s.quoted) = true ∧ c = 35
      · rw [if_pos h4]; exact .stop
      rw [if_neg h4]
      rcases startTok_cases want s with ⟨hs, -⟩ | ⟨n, -, hs⟩ <;> rw [hs]
      · exact .stop
      · exact .start n (.byte rfl)
    · rcases startTok_cases want s with ⟨hs, -⟩ | ⟨n, -, hs⟩
      · rw [step, if_pos he, hs]; exact .stop
      · rw [step_esc_start v6 want fuel he hs]
        refine .start n ?_
        have hw : ({ s with nCols := n, ws := false } : St).ws = false := rfl
        replace he : ({ s with nCols := n, ws := false } : St).escaped = true := he
        generalize ({ s with nCols := n, ws := false } : St) = t at he hw ⊢
        by_cases hm : t.mode = .none
        · rw [step, if_pos he, startTok_of_not_ws hw]
          simp only [hm]
          by_cases h1 : c = 10
          · rw [if_pos h1]; exact .cont
          rw [if_neg h1]
          cases hb : simpleEscape c
          · by_cases h2 : isOctal c = true
            · rw [if_pos h2]; exact .octal he hm h2
            rw [if_neg h2]
            by_cases h3 : c = 117
            · rw [if_pos h3]; exact .utf8 he hm
            rw [if_neg h3]
            by_cases h4 : c = 120
            · rw [if_pos h4]; exact .hex he hm
            · rw [if_neg h4]; exact .escByte hw hm
          · exact .escSimple hw hm hb
        cases hd : t.mode.isDigit c
        · rw [step_nondigit v6 want fuel he hw hm hd]
          cases hb : t.mode.bytes t.acc
          · exact .nondigitErr
          · exact .nondigit he hw hm hb (step_sound v6 want c fuel _)
        by_cases hf : t.mode.full (t.mode.push t.acc c) (t.nAcc + 1)
        · rw [step_full v6 want fuel he hw hm hd hf]
          cases hb : t.mode.bytes (t.mode.push t.acc c)
          · exact .fullErr he hm hd
          · exact .full he hw hm hd hb
        · rw [step_more v6 want fuel he hw hm hd hf]
          exact .more he hm hd hf

/-- the tokens of a state (`toks` in `tokenise`) -/
def out (s : St) : List (List Nat) :=
  if s.ws then s.done.reverse else (s.cur.reverse :: s.done).reverse

theorem mem_out {s : St} {u : List Nat} (h : u ∈ out s) : u = s.cur.reverse ∨ u ∈ s.done := by
  unfold out at h
  split at h
  · exact .inr (List.mem_reverse.1 h)
  · exact List.mem_cons.1 (List.mem_reverse.1 h)

/-- `tokenise` returns the tokens of the state the loop ends in, after writing the value of a
    numeric escape that the end of the string cut short -/
theorem tokens_eq {v6 : Bool} {want : Nat} {input rest : List Nat} {s : St} {b : Bool}
    (h : run v6 want {} input = (s, rest, b)) :
    ∃ t, (tokenise v6 want input).tokens = out t ∧
      ((∃ e, t = { s with err := e }) ∨
        ∃ bs, s.escaped = true ∧ rest = [] ∧ s.mode ≠ .none ∧ s.mode.bytes s.acc = some bs ∧
          t = { emits s bs with escaped := false }) := by
  refine ⟨_, by unfold tokenise; rw [h]; rfl, ?_⟩
  split
  · next hc =>
    obtain ⟨he, hr, hm, -, -⟩ := hc
    split
    · next hu =>
      split
      · next bs hb => exact .inr ⟨bs, he, hr, hm, by rw [hu]; exact hb, rfl⟩
      · exact .inl ⟨_, rfl⟩
    · split
      · exact .inl ⟨_, rfl⟩
      · refine .inr ⟨[s.acc % 256], he, hr, hm, ?_, rfl⟩
        cases hmm : s.mode <;> simp_all [AccMode.bytes]
  · exact .inl ⟨_, rfl⟩

/-- Hoare rule for `tokenise`.  `P s k`: an invariant of the loop, of the state `s` after `k` bytes
    of the input; `Q`: what then holds of the state whose tokens are returned, which is the one the
    loop ends in or, at the end of the string, that state after a pending escape has been written. -/
theorem tokenise_induct (v6 : Bool) (want : Nat) (input : List Nat) {P Q : St → Nat → Prop} (init : P {} 0)
    (iter : ∀ s k c o, c ∈ input → P s k → Step c s o →
      match o with | .cont t => P t (k + 1) | .stop t => Q t (k + 1))
    (atEnd : ∀ s k, P s k → Q s k)
    (flush : ∀ s k bs, P s k → s.escaped = true → s.mode ≠ .none → s.mode.bytes s.acc = some bs →
      Q (emits s bs) k) :
    ∃ t k, k ≤ input.length ∧ (tokenise v6 want input).tokens = out t ∧ Q t k := by
  have loop : ∀ l s k, (∀ c ∈ l, c ∈ input) → P s k → ∃ k' ≤ k + l.length,
      Q (run v6 want s l).1 k' ∧ ((run v6 want s l).2.1 = [] → P (run v6 want s l).1 k') := by
    intro l
    induction l with
    | nil => exact fun s k _ h => ⟨k, Nat.le_refl _, atEnd s k h, fun _ => h⟩
    | cons c l ih =>
      intro s k hl h
      have hs := iter s k c _ (hl c List.mem_cons_self) h (step_sound v6 want c 2 s)
      rw [run, List.length_cons, ← Nat.add_assoc, Nat.add_right_comm]
      split
      · next t e => rw [e] at hs; exact ih t (k + 1) (fun b hb => hl b (List.mem_cons_of_mem _ hb)) hs
      · next t e => rw [e] at hs; exact ⟨k + 1, Nat.le_add_right .., hs, nofun⟩
  obtain ⟨k, hk, hq, hp⟩ := loop input {} 0 (fun _ h => h) init
  rcases hr : run v6 want {} input with ⟨s, rest, b⟩
  rw [hr] at hq hp
  rw [Nat.zero_add] at hk
  -- `out` reads neither `err` nor `escaped`
  obtain ⟨t, ht, ⟨e, rfl⟩ | ⟨bs, he, rfl, hm, hb, rfl⟩⟩ := tokens_eq hr
  · exact ⟨s, k, hk, ht, hq⟩
  · exact ⟨emits s bs, k, hk, ht, flush s k bs (hp rfl) he hm hb⟩

end Impl
end GdModel.Token
