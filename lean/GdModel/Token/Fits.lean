/-
  The tokeniser writes no more bytes than the line has (property C05, first
  anchored mechanism): `_GD_Tokenise` copies into `outstring = strdup(instring)`;
  the tokens with their terminating NULs must fit in strlen(instring) + 1 bytes.
-/
import GdModel.Token.Step
namespace GdModel.Token.Fits
open GdModel.Token GdModel.Token.Impl

def sumLen (l : List (List Nat)) : Nat := (l.map (fun t => t.length + 1)).sum

/-- bytes written to the output buffer so far (`op - outstring`) -/
def written (s : St) : Nat := s.cur.length + sumLen s.done

/-- input bytes already consumed by an escape sequence that has not produced its output yet: the
    backslash, the `x` or `u`, and the digits (the digit that opens an octal escape is already in
    `nAcc`, which is 1 on entry) -/
def slack (s : St) : Nat :=
  if s.escaped then
    match s.mode with
    | .none => 1
    | .octal => 1 + s.nAcc
    | .hex => 2 + s.nAcc
    | .utf8 => 2 + s.nAcc
  else 0

/-- Only the length of what `\u` writes depends on the accumulated value (octal and hex write one
    byte), hence the bound of clause 2 for `.utf8` alone.  Clause 3 lets `backslash` read `slack = 1`
    off the state it enters. -/
def Good (s : St) : Prop :=
  (s.ws = true → s.cur = []) ∧
  (s.escaped = true → s.mode = .utf8 → s.acc < 16 ^ s.nAcc) ∧
  (s.escaped = false → s.mode = .none)

def Out.st : Out → St
  | .cont s => s
  | .stop s => s

/-- after `k` bytes of input: what has been written and what an unfinished escape holds back fit in them -/
def Inv (s : St) (k : Nat) : Prop := Good s ∧ written s + slack s ≤ k

@[simp] theorem st_cont (s : St) : Out.st (.cont s) = s := rfl
@[simp] theorem st_stop (s : St) : Out.st (.stop s) = s := rfl

/-- a code point takes at least four more bits for every further byte of its encoding -/
theorem utf8_len {v n : Nat} {bs : List Nat} (h : utf8Encode v = some bs) (hv : v < 16 ^ n) :
    bs.length ≤ n + 1 := by
  have hb : 16 ^ (bs.length - 1) ≤ v := by
    unfold utf8Encode at h
    by_cases h0 : v = 0 ∨ v > 0x10FFFF
    · rw [if_pos h0] at h; cases h
    rw [if_neg h0] at h
    by_cases h1 : v ≤ 0x7F
    · rw [if_pos h1] at h; cases h; simp only [List.length_cons, List.length_nil]; omega
    rw [if_neg h1] at h
    by_cases h2 : v ≤ 0x7FF
    · rw [if_pos h2] at h; cases h; simp only [List.length_cons, List.length_nil]; omega
    rw [if_neg h2] at h
    by_cases h3 : v ≤ 0xFFFF
    · rw [if_pos h3] at h; cases h; simp only [List.length_cons, List.length_nil]; omega
    · rw [if_neg h3] at h; cases h; simp only [List.length_cons, List.length_nil]; omega
  have := (Nat.pow_lt_pow_iff_right (by decide)).1 (Nat.lt_of_le_of_lt hb hv)
  omega

theorem pow16_step {acc n v : Nat} (h : acc < 16 ^ n) (hv : v < 16) : acc * 16 + v < 16 ^ (n + 1) := by
  rw [Nat.pow_succ]; omega

theorem sumLen_reverse (l : List (List Nat)) : sumLen l.reverse = sumLen l := by
  simp [sumLen, List.map_reverse, List.sum_reverse]

theorem sumLen_cons (t : List Nat) (l : List (List Nat)) : sumLen (t :: l) = t.length + 1 + sumLen l := by
  simp [sumLen]

@[simp] theorem written_acc (s : St) (a n : Nat) : written { s with acc := a, nAcc := n } = written s := rfl
@[simp] theorem written_err (s : St) (e : Option Err) : written { s with err := e } = written s := rfl
theorem written_emits (s : St) (bs : List Nat) :
    written { emits s bs with escaped := false, mode := .none } = written s + bs.length := by
  simp [written, emits]; omega
theorem written_emit (s : St) (b : Nat) :
    written { emit s b with escaped := false, mode := .none } = written s + 1 := written_emits s [b]
theorem written_emit' (s : St) (b : Nat) :
    written { emit s b with escaped := false } = written s + 1 := written_emits s [b]

theorem Inv.succ {s t : St} {k : Nat} (h : Inv s k) (hg : Good t)
    (hle : written t + slack t ≤ written s + slack s + 1) : Inv t (k + 1) :=
  ⟨hg, Nat.le_trans hle (Nat.succ_le_succ h.2)⟩

theorem inv_after {t : St} {k : Nat} (h1 : t.escaped = false) (h2 : t.mode = .none) (h3 : t.ws = false)
    (h4 : written t ≤ k) : Inv t k := by
  refine ⟨⟨by simp [h3], by simp [h1], fun _ => h2⟩, ?_⟩
  simp [slack, h1]; exact h4

/-- the value of a numeric escape takes no more bytes than the escape has consumed: one for
    each digit, and the backslash -/
theorem bytes_le_slack {s : St} {bs : List Nat} (hg : Good s) (he : s.escaped = true) (hm : s.mode ≠ .none)
    (h : s.mode.bytes s.acc = some bs) : bs.length ≤ slack s := by
  simp only [slack, he, if_true]
  cases hmm : s.mode <;> simp only [hmm, AccMode.bytes, ne_eq, not_true] at h hm ⊢
  case utf8 => have := utf8_len h (hg.2.1 he hmm); omega
  all_goals split at h <;> cases h <;> simp <;> omega

theorem Inv.push {s : St} {k c : Nat} (h : Inv s k) (he : s.escaped = true) (hm : s.mode ≠ .none)
    (hd : s.mode.isDigit c = true) : Inv { s with acc := s.mode.push s.acc c, nAcc := s.nAcc + 1 } (k + 1) := by
  refine ⟨⟨h.1.1, fun _ hu => ?_, fun h' => nomatch he.symm.trans h'⟩, ?_⟩
  · have hu' : s.mode = .utf8 := hu
    simp only [hu'] at hd ⊢
    exact pow16_step (h.1.2.1 he hu') (hexVal_lt hd)
  · have hs : slack { s with acc := s.mode.push s.acc c, nAcc := s.nAcc + 1 } = slack s + 1 := by
      simp only [slack, he, if_true]
      cases hmm : s.mode
      · exact absurd hmm hm
      all_goals simp only; omega
    rw [written_acc, hs]
    have := h.2; omega

theorem Inv.flush_le {s : St} {k : Nat} {bs : List Nat} (h : Inv s k) (he : s.escaped = true)
    (hm : s.mode ≠ .none) (hb : s.mode.bytes s.acc = some bs) : written (emits s bs) ≤ k :=
  Nat.le_trans (Nat.le_of_eq (written_emits s bs))
    (Nat.le_trans (Nat.add_le_add_left (bytes_le_slack h.1 he hm hb) _) h.2)

theorem Inv.flush {s : St} {k : Nat} {bs : List Nat} (h : Inv s k) (he : s.escaped = true) (hw : s.ws = false)
    (hm : s.mode ≠ .none) (hb : s.mode.bytes s.acc = some bs) :
    Inv { emits s bs with escaped := false, mode := .none } k :=
  inv_after rfl rfl hw (h.flush_le he hm hb)

/-- every iteration consumes one byte and lets `written + slack` grow by one at most -/
theorem step_inv {c : Nat} {s : St} {o : Out} (h : Step c s o) :
    ∀ {k : Nat}, Inv s k → Inv (Out.st o) (k + 1) := by
  induction h with
  | stop | cont | quoteFull | quote | nondigitErr => exact fun h => h.succ h.1 (Nat.le_succ _)
  | start _ _ ih => exact fun h => ih ⟨⟨nofun, h.1.2⟩, h.2⟩
  | backslash he =>
    intro k h
    have hm := h.1.2.2 he
    exact h.succ ⟨h.1.1, fun _ h' => (nomatch hm.symm.trans h'), nofun⟩ (by simp [slack, hm, he, written])
  | @endToken s =>
    refine fun h => h.succ ⟨fun _ => rfl, h.1.2⟩ ?_
    show _ + slack s ≤ _
    simp only [st_cont, written, sumLen_cons, List.length_reverse, List.length_nil]; omega
  | @byte s hw =>
    refine fun h => h.succ ⟨by simp [emit, hw], h.1.2⟩ ?_
    show _ + slack s ≤ _
    simp only [st_cont, written, emit, List.length_cons]; omega
  | escSimple hw hm _ | escByte hw hm =>
    intro k h
    refine inv_after rfl hm hw ?_
    rw [st_cont, written_emit']
    have := h.2; omega
  | octal he hm _ | utf8 he hm | hex he hm =>
    exact fun h => h.succ ⟨h.1.1, by simp, fun h' => nomatch he.symm.trans h'⟩ (by simp [slack, he, hm, written])
  | more he hm hd _ | fullErr he hm hd => exact fun h => h.push he hm hd
  | full he hw hm hd hb => exact fun h => (h.push he hm hd).flush he hw hm hb
  | nondigit he hw hm hb _ ih => exact fun h => ih (h.flush he hw hm hb)

theorem inv_init : Inv ({} : St) 0 := by
  simp [Inv, Good, written, slack, sumLen]

theorem sumLen_out (t : St) : sumLen (out t) ≤ written t + 1 := by
  unfold out written
  split
  · rw [sumLen_reverse]; omega
  · rw [sumLen_reverse, sumLen_cons, List.length_reverse]; omega

/-- **The tokeniser's output fits its buffer.**  For every byte string, in
    either syntax mode and for every `tok_want`, the tokens `_GD_Tokenise`
    produces, each with its terminating NUL, occupy at most `strlen(line) + 1`
    bytes — the size of the `strdup` copy it writes them into. -/
theorem tokenise_output_fits (v6 : Bool) (want : Nat) (input : List Nat) :
    sumLen (tokenise v6 want input).tokens ≤ input.length + 1 := by
  obtain ⟨t, k, hk, ht, h⟩ := tokenise_induct v6 want input (P := Inv) (Q := fun t k => written t ≤ k) inv_init
    (fun s k c o _ hi hs => by
      have := step_inv hs hi
      cases o
      · exact this
      · exact Nat.le_trans (Nat.le_add_right ..) this.2)
    (fun s k hi => Nat.le_trans (Nat.le_add_right ..) hi.2)
    -- the end of the string completes a numeric escape
    (fun _ _ _ hi => hi.flush_le)
  rw [ht]
  exact Nat.le_trans (sumLen_out t) (Nat.succ_le_succ (Nat.le_trans h hk))

end GdModel.Token.Fits
