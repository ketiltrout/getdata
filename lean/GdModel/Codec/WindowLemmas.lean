/-
  The window reader returns exactly the requested slice of the decompressed
  stream after any seek, from any reachable state: purity of reads through
  bzip2-style codecs (C02).  Fuel is dealt with once, in `refill_induction`
  (induction along refills); `ReadsAt` says what a read at a given offset has to
  return, `read_readsAt` that `read` does so at the cursor, `seek_spec` that `seek`
  puts the cursor at the offset asked for.
-/
import GdModel.Codec.Window
namespace GdModel.Codec
variable (D : List Nat) (B : Nat)

theorem inv0_fresh : Win.Inv0 D {} := ⟨Nat.zero_le _, Nat.le_refl _, nofun⟩

theorem refill_inv0 (w : Win) (hi : Win.Inv0 D w) : Win.Inv0 D (Win.refill D B w) :=
  ⟨Nat.add_le_of_le_sub' hi.1 (Nat.min_le_right ..), Nat.zero_le _, of_decide_eq_true⟩

theorem refill_progress (hB : 0 < B) (w : Win) (hi : Win.Inv0 D w) (hne : w.base + w.len < D.length) :
    D.length - ((Win.refill D B w).base + (Win.refill D B w).len) < D.length - (w.base + w.len) :=
  Nat.sub_lt_sub_left hne (Nat.lt_add_of_pos_right (Nat.lt_min.2 ⟨hB, Nat.sub_pos_of_lt hne⟩))

/-- Fuel that suffices for a refill loop from `w`: an upper bound on its iterations.  Every refill
    before the end delivers at least one byte, which gives `D.length - (base + len)`; the `+ 2` is one
    refill that delivers nothing and only finds the end (when `base + len = D.length` with
    `streamEnd` still false), and the last iteration, which does not refill.  `needFuel_le` is why
    `Win.seek` and the callers of `Win.read` pass `D.length + 2`. -/
def needFuel (w : Win) : Nat := if w.streamEnd then 1 else D.length - (w.base + w.len) + 2

theorem needFuel_le (w : Win) : needFuel D w ≤ D.length + 2 := by
  unfold needFuel
  split
  · exact Nat.le_add_left 1 _
  · exact Nat.add_le_add_right (Nat.sub_le ..) 2

theorem needFuel_refill (hB : 0 < B) (w : Win) (hi : Win.Inv0 D w) (hs : w.streamEnd = false) :
    needFuel D (Win.refill D B w) < needFuel D w := by
  rw [needFuel, needFuel, hs, if_neg Bool.false_ne_true]
  split
  · exact Nat.lt_add_left _ (by decide)
  · next he =>
    -- the refill did not reach the end, so it started before the end and made progress
    refine Nat.add_lt_add_right (refill_progress D B hB w hi (Nat.lt_of_le_of_ne hi.1 fun h => he ?_)) 2
    simp [Win.refill, h]

theorem refill_induction (hB : 0 < B) {P : Nat → Win → Prop}
    (step : ∀ fuel w, Win.Inv0 D w → (w.streamEnd = false → P fuel (Win.refill D B w)) → P (fuel + 1) w) :
    ∀ fuel w, Win.Inv0 D w → needFuel D w ≤ fuel → P fuel w := by
  intro fuel
  induction fuel with
  | zero => intro w _ h; unfold needFuel at h; split at h <;> omega
  | succ fuel ih =>
    exact fun w hi hf => step fuel w hi fun hs =>
      ih _ (refill_inv0 D B w hi) (Nat.le_of_lt_succ (Nat.lt_of_lt_of_le (needFuel_refill D B hB w hi hs) hf))

theorem avail_length (w : Win) (hi : Win.Inv0 D w) : (Win.avail D w).length = w.len - w.pos := by
  rw [Win.avail, List.length_take, List.length_drop]
  exact Nat.min_eq_left (Nat.add_sub_add_left .. ▸ Nat.sub_le_sub_right hi.1 _)

/-- `r` answers "read `n` bytes at offset `a`": the bytes, and a consistent reader positioned after them -/
def ReadsAt (a n : Nat) (r : List Nat × Win) : Prop :=
  r.1 = (D.drop a).take n ∧ Win.Inv D r.2 ∧ r.2.filePos = min (a + n) D.length

theorem ReadsAt.append {a m n : Nat} {r : List Nat × Win} (hm : m ≤ n) (h : ReadsAt D (a + m) (n - m) r) :
    ReadsAt D a n ((D.drop a).take m ++ r.1, r.2) :=
  ⟨by rw [h.1, ← List.drop_drop, ← List.take_add, Nat.add_sub_cancel' hm], h.2.1,
   by rw [h.2.2, Nat.add_assoc, Nat.add_sub_cancel' hm]⟩

theorem ReadsAt.of_min {a n : Nat} {r : List Nat × Win} (h : ReadsAt D (min a D.length) n r) :
    ReadsAt D a n r := by
  by_cases ha : a ≤ D.length
  · rwa [Nat.min_eq_left ha] at h
  · have ha := Nat.le_of_not_le ha
    rw [Nat.min_eq_right ha] at h
    exact ⟨by rw [h.1, List.drop_of_length_le (Nat.le_refl _), List.drop_of_length_le ha], h.2.1,
      by rw [h.2.2, Nat.min_eq_right (Nat.le_add_right ..), Nat.min_eq_right (Nat.le_trans ha (Nat.le_add_right ..))]⟩

theorem read_readsAt (hB : 0 < B) : ∀ (fuel : Nat) (w : Win), Win.Inv0 D w →
    needFuel D w ≤ fuel → ∀ n, ReadsAt D (w.base + w.pos) n (Win.read D B fuel w n) := by
  refine refill_induction D B hB fun fuel w hi ih n => ?_
  have ha := avail_length D w hi
  obtain ⟨h1, h2, h3⟩ := hi
  rw [Win.read]
  by_cases hn : n ≤ w.len - w.pos
  · rw [if_pos hn]
    have hp : w.pos + n ≤ w.len := Nat.add_le_of_le_sub' h2 hn
    have : w.base + w.pos + n ≤ D.length := Nat.add_assoc .. ▸ Nat.le_trans (Nat.add_le_add_left hp _) h1
    exact ⟨rfl, ⟨⟨h1, hp, h3⟩, Nat.add_assoc ..⟩, (Nat.min_eq_left this).symm⟩
  · rw [if_neg hn]
    have hn := Nat.le_of_not_le hn
    split
    · next hs =>
      -- the stream ends with the window: what is left of the window is all there is
      have hend := h3 hs
      have hl : (D.drop (w.base + w.pos)).length = w.len - w.pos := by
        rw [List.length_drop, ← hend, Nat.add_sub_add_left]
      refine ⟨?_, ⟨⟨h1, Nat.le_refl _, h3⟩, rfl⟩, ?_⟩
      · show Win.avail D w = _
        rw [Win.avail, List.take_of_length_le (Nat.le_of_eq hl), List.take_of_length_le (hl ▸ hn)]
      · show w.base + w.len = _
        rw [hend, Nat.min_eq_right]
        -- the request reaches beyond the window (`hn`), and the stream ends there
        rw [← hend, Nat.add_assoc]
        exact Nat.add_le_add_left (Nat.sub_le_iff_le_add'.1 hn) _
    · next hs =>
      exact ReadsAt.append D hn (r := Win.read D B fuel (Win.refill D B w) (n - (Win.avail D w).length))
        (by rw [Nat.add_assoc, Nat.add_sub_cancel' h2, ← ha]; exact ih (Bool.eq_false_iff.2 hs) _)

/-- `read_readsAt` with `ReadsAt` unfolded -/
theorem read_spec (hB : 0 < B) : ∀ (fuel : Nat) (w : Win) (n : Nat), Win.Inv0 D w →
    needFuel D w ≤ fuel →
    (Win.read D B fuel w n).1 = (D.drop (w.base + w.pos)).take n ∧
    Win.Inv D (Win.read D B fuel w n).2 ∧
    (Win.read D B fuel w n).2.filePos = min (w.base + w.pos + n) D.length :=
  fun fuel w n hi hf => read_readsAt D B hB fuel w hi hf n

theorem seekFwd_spec (hB : 0 < B) (k : Nat) : ∀ (fuel : Nat) (w : Win), Win.Inv0 D w →
    needFuel D w ≤ fuel → w.base ≤ k →
    Win.Inv0 D (Win.seekFwd D B fuel w k) ∧ (Win.seekFwd D B fuel w k).base ≤ k ∧
    ((Win.seekFwd D B fuel w k).base + (Win.seekFwd D B fuel w k).len < k →
      (Win.seekFwd D B fuel w k).streamEnd = true) := by
  refine refill_induction D B hB fun fuel w hi ih hk => ?_
  rw [Win.seekFwd]
  split
  · next hc => exact ih (by simpa using hc.2) (Nat.le_of_lt hc.1)
  · next hc => exact ⟨hi, hk, fun hlt => by simpa [hlt] using hc⟩

theorem seek_spec (hB : 0 < B) (w : Win) (k : Nat) (hi : Win.Inv D w) :
    Win.Inv D (Win.seek D B w k) ∧ (Win.seek D B w k).filePos = min k D.length := by
  obtain ⟨hi0, hfp⟩ := hi
  unfold Win.seek
  by_cases hsc : w.filePos = k
  · rw [if_pos hsc]
    -- nothing to do: the position is `k` already, and it lies inside the window
    have hk : k ≤ D.length := hsc ▸ hfp ▸ Nat.le_trans (Nat.add_le_add_left hi0.2.1 _) hi0.1
    exact ⟨⟨hi0, hfp⟩, hsc.trans (Nat.min_eq_left hk).symm⟩
  · rw [if_neg hsc]
    simp only
    -- `w0`: the window the loop starts from, fresh after a seek to before the window, else `w`;
    -- `w1`: where `seekFwd` stops, with `k` inside the window or the stream at its end; then `pos` is placed
    generalize hw0 : (if k < w.base then ({} : Win) else w) = w0
    have h0 : Win.Inv0 D w0 ∧ w0.base ≤ k := by
      rw [← hw0]
      split
      · exact ⟨inv0_fresh D, Nat.zero_le _⟩
      · exact ⟨hi0, Nat.le_of_not_lt ‹_›⟩
    obtain ⟨⟨a1, a2, a3⟩, s2, s3⟩ := seekFwd_spec D B hB k _ w0 h0.1 (needFuel_le D w0) h0.2
    generalize Win.seekFwd D B (D.length + 2) w0 k = w1 at a1 a2 a3 s2 s3 ⊢
    split
    · next hp =>
      have := a3 hp.1
      exact ⟨⟨⟨a1, Nat.le_refl _, a3⟩, rfl⟩, this ▸ (Nat.min_eq_right (this ▸ hp.2)).symm⟩
    · next hp =>
      have hle : k ≤ w1.base + w1.len := Nat.le_of_not_lt fun hlt => hp ⟨s3 hlt, Nat.le_of_lt hlt⟩
      exact ⟨⟨⟨a1, Nat.sub_le_iff_le_add'.2 hle, a3⟩, rfl⟩,
        (Nat.add_sub_cancel' s2).trans (Nat.min_eq_left (Nat.le_trans hle a1)).symm⟩

/-- **Purity of reads through the window codec (C02).**  From any consistent
    reader state — whatever was read, sought or refilled before — seeking to
    byte `k` and reading `n` bytes returns exactly bytes `k … k+n` of the
    decompressed stream (short at its end), and leaves a consistent state
    positioned after them. -/
theorem seek_read_pure (hB : 0 < B) (w : Win) (k n : Nat) (hi : Win.Inv D w) :
    (Win.read D B (D.length + 2) (Win.seek D B w k) n).1 = (D.drop k).take n ∧
    Win.Inv D (Win.read D B (D.length + 2) (Win.seek D B w k) n).2 ∧
    (Win.read D B (D.length + 2) (Win.seek D B w k) n).2.filePos = min (k + n) D.length := by
  obtain ⟨⟨hs0, hs1⟩, hs2⟩ := seek_spec D B hB w k hi
  exact ReadsAt.of_min D (hs2 ▸ hs1 ▸ read_readsAt D B hB _ _ hs0 (needFuel_le D _) n)

end GdModel.Codec
