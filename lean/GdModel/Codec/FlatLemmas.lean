/-
  The sample-index encoding of `Codec.Flat` (`Sie.compress`, `Sie.expand`, `Sie.WF`), from any start
  index: what C03 (the array round trip) and C04 (the sie file) both rest on.
-/
import GdModel.Codec.Flat
namespace GdModel.Codec.Sie
variable {α : Type}

theorem expandFrom_compressFrom [DecidableEq α] : ∀ (xs : List α) (start : Nat),
    expandFrom start (compressFrom start xs) = xs ∧ WF start (compressFrom start xs)
  | [], _ => ⟨rfl, trivial⟩
  | x :: xs, start => by
    have ih := expandFrom_compressFrom xs (start + 1)
    rw [compressFrom]
    split
    · next last v rs hc =>
      rw [hc] at ih
      obtain ⟨ih1, hle, ih2⟩ := ih
      split
      · next hv =>
        -- the run of `x` that starts at `start + 1` is extended by one sample to the left
        refine ⟨?_, Nat.le_of_succ_le hle, ih2⟩
        rw [← ih1, ← hv, expandFrom, expandFrom, Nat.add_sub_add_right,
          Nat.succ_sub (Nat.le_of_succ_le hle)]
        rfl
      · exact ⟨by rw [expandFrom, ih1, Nat.add_sub_cancel_left]; rfl, Nat.le_refl _, hle, ih2⟩
    · next hc =>
      rw [hc] at ih
      rw [← ih.1]
      exact ⟨by simp [expandFrom], Nat.le_refl _, trivial⟩

theorem mem_of_wf : ∀ (rs : List (Rec α)) (start : Nat), WF start rs →
    ∀ r ∈ rs, r.1 < start + (expandFrom start rs).length ∧ r.2 ∈ expandFrom start rs
  | (last, v) :: rs, start, ⟨hle, hwf⟩, r, hr => by
    rw [expandFrom, List.length_append, List.length_replicate, List.mem_append, ← Nat.add_assoc,
      Nat.add_sub_cancel' (Nat.le_succ_of_le hle)]
    rcases List.mem_cons.1 hr with rfl | hr
    · exact ⟨Nat.lt_of_lt_of_le (Nat.lt_succ_self _) (Nat.le_add_right ..),
        Or.inl (List.mem_replicate.2 ⟨Nat.sub_ne_zero_of_lt (Nat.lt_succ_of_le hle), rfl⟩)⟩
    · exact (mem_of_wf rs (last + 1) hwf r hr).imp id Or.inr

end GdModel.Codec.Sie
