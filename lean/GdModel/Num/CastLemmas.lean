/-
  C casts on bit patterns, for Props/C06: the integer types as windows of
  length 2^width (`CT.inRange_iff`), `toInt`/`ofInt` as inverse up to
  congruence, and `ccast` case by case on which sides are floating.
-/
import GdModel.Num.Chain

namespace GdModel.Num

theorem two_pow_cast (w : Nat) : ((2 ^ w : Nat) : Int) = (2 : Int) ^ w := Int.natCast_pow 2 w

/-- the sign bit is half the modulus (no type has width 0) -/
theorem CT.two_pow_width (t : CT) : (2 : Int) ^ t.width = 2 * 2 ^ (t.width - 1) := by
  rw [← Int.pow_succ', Nat.sub_add_cancel t.width_pos]

theorem eq_of_emod_eq {a b lo M : Int} (h : a % M = b % M) (ha : lo ≤ a ∧ a < lo + M)
    (hb : lo ≤ b ∧ b < lo + M) : a = b := by
  -- shifted by `lo` both lie in [0, M), where `% M` changes nothing
  have e := (Int.emod_sub_cancel_right lo).2 h
  rw [Int.emod_eq_of_lt (by omega) (by omega), Int.emod_eq_of_lt (by omega) (by omega)] at e
  omega

theorem CT.inRange_iff (t : CT) (n : Int) :
    t.inRange n = true ↔ t.minInt ≤ n ∧ n < t.minInt + 2 ^ t.width := by
  have := t.two_pow_width
  unfold inRange maxInt minInt
  cases t.isSigned <;> simp <;> omega

theorem CT.ofInt_lt (t : CT) (n : Int) : t.ofInt n < 2 ^ t.width := by
  have hp : (0 : Int) < 2 ^ t.width := Int.pow_pos (by decide)
  rw [ofInt, Int.toNat_lt (Int.emod_nonneg n (Int.ne_of_gt hp)), two_pow_cast]
  exact Int.emod_lt_of_pos n hp

theorem CT.ofInt_width {t t' : CT} (h : t.width = t'.width) (n : Int) : t.ofInt n = t'.ofInt n := by
  unfold ofInt; rw [h]

theorem CT.toInt_emod (t : CT) (x : Nat) :
    t.toInt x % (2 : Int) ^ t.width = (x : Int) % (2 : Int) ^ t.width := by
  unfold toInt
  split
  · rw [Int.sub_emod, Int.emod_self, Int.sub_zero, Int.emod_emod]
  · rfl

theorem CT.toInt_inRange (t : CT) (x : Nat) (hx : x < 2 ^ t.width) : t.inRange (t.toInt x) = true := by
  rw [inRange_iff]
  have := t.two_pow_width
  have := two_pow_cast t.width
  have := two_pow_cast (t.width - 1)
  unfold toInt minInt
  cases t.isSigned
  · simp; omega
  · simp; split <;> omega

theorem CT.toInt_ofInt_emod (t : CT) (n : Int) :
    t.toInt (t.ofInt n) % (2 : Int) ^ t.width = n % (2 : Int) ^ t.width := by
  rw [toInt_emod, ofInt,
    Int.toNat_of_nonneg (Int.emod_nonneg n (Int.pow_ne_zero (by decide))), Int.emod_emod]

/-- Passing through a wider (or equal) integer type before a narrowing store does not
    change the bits stored: a congruence modulo 2^width holds modulo every smaller power. -/
theorem CT.ofInt_toInt_ofInt_le {t t' : CT} (h : t'.width ≤ t.width) (n : Int) :
    t'.ofInt (t.toInt (t.ofInt n)) = t'.ofInt n := by
  have hd : (2 : Int) ^ t'.width ∣ 2 ^ t.width :=
    ⟨2 ^ (t.width - t'.width), by rw [← Int.pow_add, Nat.add_sub_cancel' h]⟩
  show (t.toInt (t.ofInt n) % 2 ^ t'.width).toNat = _
  rw [← Int.emod_emod_of_dvd _ hd, toInt_ofInt_emod, Int.emod_emod_of_dvd _ hd]
  rfl

/-- Re-wrapping after reading back through any integer type of the same width
    gives the same bits. -/
theorem CT.ofInt_toInt_ofInt {t t' : CT} (h : t'.width = t.width) (n : Int) :
    t'.ofInt (t.toInt (t.ofInt n)) = t.ofInt n :=
  (ofInt_toInt_ofInt_le (Nat.le_of_eq h) n).trans (ofInt_width h n)

theorem CT.ofInt_toInt (t : CT) (x : Nat) (hx : x < 2 ^ t.width) : t.ofInt (t.toInt x) = x := by
  have h3 := two_pow_cast t.width
  unfold ofInt
  rw [toInt_emod, Int.emod_eq_of_lt (by omega) (by omega)]
  rfl

/-- A value representable in `t` survives the wrap unchanged: it and what is
    read back are congruent values of the type. -/
theorem CT.toInt_ofInt_of_inRange (t : CT) (n : Int) (h : t.inRange n = true) :
    t.toInt (t.ofInt n) = n :=
  eq_of_emod_eq (toInt_ofInt_emod t n) ((inRange_iff t _).1 (toInt_inRange t _ (ofInt_lt t n)))
    ((inRange_iff t n).1 h)

theorem ccast_int_int {s d : CT} (hs : s.isFloat = false) (hd : d.isFloat = false) (x : Nat) :
    ccast s d x = some (d.ofInt (s.toInt x)) := by
  unfold ccast; rw [hs, hd]

theorem ccast_float_int {s d : CT} (hs : s.isFloat = true) (hd : d.isFloat = false) (x : Nat) :
    ccast s d x = match s.fmt.decode x with
      | .nan _ _ => none
      | .inf _ => none
      | .fin neg m e =>
        let v : Int := if neg then -(truncMag m e : Int) else (truncMag m e : Int)
        if d.inRange v then some (d.ofInt v) else none := by
  unfold ccast; rw [hs, hd]; rfl

theorem ccast_self (t : CT) (x : Nat) (hx : t.isFloat = false → x < 2 ^ t.width) : ccast t t x = some x := by
  cases h : t.isFloat
  · rw [ccast_int_int h h, CT.ofInt_toInt t x (hx h)]
  · unfold ccast; simp [h, fcast]

theorem ccast_lt_of_int_dst {s d : CT} (hd : d.isFloat = false) {x r : Nat} (h : ccast s d x = some r) :
    r < 2 ^ d.width := by
  cases hs : s.isFloat
  · rw [ccast_int_int hs hd] at h
    cases h; exact CT.ofInt_lt d _
  · rw [ccast_float_int hs hd] at h
    split at h
    · contradiction
    · contradiction
    · cases (Option.ite_none_right_eq_some.1 h).2
      exact CT.ofInt_lt d _

/-- the implicit conversion to an lvalue of the cast's own type is the identity on
    whatever the cast delivers -/
theorem cast2_same {l c : CT} (x : Nat) : cast2 l c c x = ccast l c x :=
  (Option.bind_congr fun r h => ccast_self c r fun hc => ccast_lt_of_int_dst hc h).trans
    (Option.bind_fun_some _)

/-- Converting to an integer type and then assigning to an lvalue of any integer
    type of the same width stores the same bits as converting directly. -/
theorem cast2_int_store {l ct st : CT} (hct : ct.isFloat = false) (hst : st.isFloat = false)
    (hw : st.width = ct.width) (x : Nat) :
    cast2 l ct st x = ccast l ct x :=
  (Option.bind_congr fun r h => by
    rw [ccast_int_int hct hst, CT.ofInt_width hw, CT.ofInt_toInt ct r (ccast_lt_of_int_dst hct h)]).trans
    (Option.bind_fun_some _)

/-- integer source: converting to a wider-or-equal integer type and then
    assigning to the (narrower) integer lvalue wraps exactly like a direct cast. -/
theorem cast2_int_via_wider {l ct st d : CT} (hl : l.isFloat = false) (hct : ct.isFloat = false)
    (hst : st.isFloat = false) (hd : d.isFloat = false) (hw : st.width = d.width)
    (hge : d.width ≤ ct.width) (x : Nat) :
    cast2 l ct st x = ccast l d x := by
  unfold cast2
  rw [ccast_int_int hl hct, ccast_int_int hl hd, Option.bind_some, ccast_int_int hct hst,
    CT.ofInt_toInt_ofInt_le (by omega), CT.ofInt_width hw]

end GdModel.Num
