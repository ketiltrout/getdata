/-
  Round-trip lemmas for the byte-order layer (src/endian.c).
-/
import GdModel.Bytes.Order

namespace GdModel.Bytes
open GdModel.Num

theorem leBytes_length : ∀ (w v : Nat), (leBytes w v).length = w
  | 0, _ => rfl
  | w + 1, v => congrArg (· + 1) (leBytes_length w (v / 256))

theorem leVal_leBytes : ∀ (w v : Nat), v < 256 ^ w → leVal (leBytes w v) = v
  | 0, v, h => (Nat.lt_one_iff.mp h).symm
  | w + 1, v, h => by
      have hv : v / 256 < 256 ^ w := (Nat.div_lt_iff_lt_mul (by decide)).mpr h
      rw [leBytes, leVal, leVal_leBytes w _ hv]
      exact Nat.mod_add_div v 256

theorem armSwap_length (bs : List Nat) : (armSwap bs).length = bs.length := by
  rw [armSwap, List.length_append, Nat.add_comm, ← List.length_append, List.take_append_drop]

theorem armSwap_armSwap (bs : List Nat) (h : bs.length = 8) : armSwap (armSwap bs) = bs := by
  have h4 : (bs.drop 4).length = 4 := by rw [List.length_drop, h]
  rw [armSwap, armSwap, List.drop_left' h4, List.take_left' h4, List.take_append_drop]

theorem armSwap_reverse (bs : List Nat) (h : bs.length = 8) :
    armSwap (bs.reverse) = (armSwap bs).reverse := by
  rw [armSwap, armSwap, List.drop_reverse, List.take_reverse, h, List.reverse_append]

/-- **Byte-order round trip, one component**: for every byte order (little,
    big, and the ARM middle-endian variants) and every component type, decoding
    the encoded bytes gives the value back. -/
theorem decode_encode_comp (o : Order) (t : CT) (v : Nat) (hv : v < 2 ^ t.width) :
    decodeComp o t (encodeComp o t v) = v := by
  have hw : 256 ^ (t.width / 8) = 2 ^ t.width := by cases t <;> decide
  have hval := leVal_leBytes (t.width / 8) v (hw ▸ hv)
  unfold decodeComp encodeComp
  cases harm : armApplies o t
  · cases o.big <;> simpa using hval
  · have h8 : (leBytes (t.width / 8) v).length = 8 := by
      rw [leBytes_length, eq_of_beq (Bool.and_eq_true_iff.mp harm).2]; rfl
    cases o.big <;> simp [armSwap_armSwap, h8, hval]

theorem encodeComp_length (o : Order) (t : CT) (v : Nat) : (encodeComp o t v).length = t.width / 8 := by
  simp only [encodeComp, apply_ite List.length, armSwap_length, List.length_reverse, ite_self, leBytes_length]

end GdModel.Bytes
