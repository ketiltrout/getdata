/-
  The flow checker without repeated work.  `run` lists outcomes path by path:
  after `k` two-way branches that leave the counter alone it holds the same
  outcome `2^k` times and enters the rest of the body once for each.  `runD`
  erases duplicates before going on, so it costs what the distinct counter
  values cost; whatever it accepts, `run` accepts.
-/
import GdModel.Flow.Sound

namespace GdModel.Flow

def runD : Stmt → Int → Option (List (Kind × Int))
  | .seq a b, v => (runD a v).bind fun ra => seqFold (runD b) ra.eraseDups
  | .choice a b, v => (runD a v).bind fun ra => (runD b v).map (ra ++ ·)
  | .sw s, v => (runD s v).map swRes
  | .loop s, v => (runD s v).bind (loopRes v)
  | s, v => run s v

def balancedD (s : Stmt) (v : Int) : Bool :=
  match runD s v with
  | none => false
  | some r => r.all fun kv => (kv.1 = .returned ∨ kv.1 = .normal) && kv.2 = v

/-- Whenever `o'` answers, `o` answers with a list contained in it.  The precise side stands on the left:
    `run_refines_runD : Refines (run s v) (runD s v)`, the duplicate-free `runD` being the coarser of the two. -/
def Refines (o o' : Option (List (Kind × Int))) : Prop :=
  ∀ l', o' = some l' → ∃ l, o = some l ∧ l ⊆ l'

theorem Refines.refl (o) : Refines o o := fun l h => ⟨l, h, List.Subset.refl l⟩

theorem Refines.bind {o o'} {F F' : List (Kind × Int) → Option (List (Kind × Int))}
    (h : Refines o o') (hF : ∀ l l', l ⊆ l' → Refines (F l) (F' l')) : Refines (o.bind F) (o'.bind F') := by
  intro r' hr'
  obtain ⟨l', hl', hr'⟩ := Option.bind_eq_some_iff.mp hr'
  obtain ⟨l, hl, hs⟩ := h l' hl'
  exact hl ▸ hF l l' hs r' hr'

theorem Refines.map {o o'} {f f' : List (Kind × Int) → List (Kind × Int)}
    (h : Refines o o') (hf : ∀ l l', l ⊆ l' → f l ⊆ f' l') : Refines (o.map f) (o'.map f') := by
  intro r' hr'
  obtain ⟨l', hl', rfl⟩ := Option.map_eq_some_iff.mp hr'
  obtain ⟨l, hl, hs⟩ := h l' hl'
  exact ⟨f l, hl ▸ rfl, hf l l' hs⟩

theorem seqFold_mono {f g} (hfg : ∀ v, Refines (f v) (g v)) {ra ra'} (hs : ra ⊆ ra') :
    Refines (seqFold f ra) (seqFold g ra') := by
  intro l' h
  induction ra with
  | nil => exact ⟨[], rfl, List.nil_subset _⟩
  | cons kv ra ih =>
    obtain ⟨hkv, hs⟩ := List.cons_subset.mp hs
    obtain ⟨l, hl, hsub⟩ := ih hs
    obtain ⟨rb', hrb', hsub'⟩ := seqFold_spec h hkv
    have : Refines (if kv.1 = .normal then f kv.2 else some [kv]) (if kv.1 = .normal then g kv.2 else some [kv]) := by
      split
      · exact hfg _
      · exact .refl _
    obtain ⟨rb, hrb, hsub''⟩ := this rb' hrb'
    exact ⟨rb ++ l, by rw [seqFold_cons, hl, Option.bind_some, hrb]; rfl,
      List.append_subset.mpr ⟨hsub''.trans hsub', hsub⟩⟩

theorem loopRes_mono {v r r'} (hs : r ⊆ r') : Refines (loopRes v r) (loopRes v r') := by
  intro l' h
  obtain ⟨hall, h⟩ := Option.ite_none_right_eq_some.mp h
  cases h
  exact ⟨_, if_pos (List.all_eq_true.mpr fun x hx => List.all_eq_true.mp hall x (hs hx)),
    List.cons_subset_cons _ (List.filterMap_subset _ hs)⟩

theorem run_refines_runD : ∀ (s : Stmt) (v : Int), Refines (run s v) (runD s v)
  | .seq a b, v => by
    rw [run_seq, runD]
    exact (run_refines_runD a v).bind fun _ _ hs =>
      seqFold_mono (run_refines_runD b) fun x hx => List.mem_eraseDups.mpr (hs hx)
  | .choice a b, v => by
    rw [run_choice, runD]
    exact (run_refines_runD a v).bind fun _ _ hsa => (run_refines_runD b v).map fun _ _ hsb =>
      List.append_subset.mpr ⟨List.subset_append_of_subset_left _ hsa, List.subset_append_of_subset_right _ hsb⟩
  | .sw s, v => by
    rw [run_sw, runD]
    exact (run_refines_runD s v).map fun _ _ hs => List.map_subset _ hs
  | .loop s, v => by
    rw [run_loop, runD]
    exact (run_refines_runD s v).bind fun _ _ hs => loopRes_mono hs
  | .skip, _ | .inc, _ | .dec, _ | .ret, _ | .brk, _ | .cont, _ => .refl _

theorem balancedAt_of_balancedD {s : Stmt} {v : Int} (h : balancedD s v = true) : balancedAt s v = true := by
  unfold balancedD at h
  split at h
  · cases h
  · next r' hr' =>
    obtain ⟨r, hr, hs⟩ := run_refines_runD s v r' hr'
    rw [balancedAt, hr]
    exact List.all_eq_true.mpr fun x hx => List.all_eq_true.mp h x (hs hx)

end GdModel.Flow
