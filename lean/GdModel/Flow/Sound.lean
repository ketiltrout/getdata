/-
  Soundness of the flow checker: every concrete execution's outcome is among
  the outcomes the checker computed; hence a function the checker accepts
  returns with the recursion counter exactly where it was on entry.
-/
import GdModel.Flow.IR

namespace GdModel.Flow

theorem run_seq (a b : Stmt) (v : Int) : run (.seq a b) v = (run a v).bind (seqFold (run b)) := by
  simp only [run]; cases run a v <;> rfl

theorem run_choice (a b : Stmt) (v : Int) :
    run (.choice a b) v = (run a v).bind fun ra => (run b v).map (ra ++ ·) := by
  simp only [run]; cases run a v <;> cases run b v <;> rfl

theorem run_sw (s : Stmt) (v : Int) : run (.sw s) v = (run s v).map swRes := by
  simp only [run]; cases run s v <;> rfl

theorem run_loop (s : Stmt) (v : Int) : run (.loop s) v = (run s v).bind (loopRes v) := by
  simp only [run]; cases run s v <;> rfl

theorem seqFold_cons (f : Int → Option (List (Kind × Int))) (kv : Kind × Int) (ra : List (Kind × Int)) :
    seqFold f (kv :: ra) =
      (seqFold f ra).bind fun l => (if kv.1 = .normal then f kv.2 else some [kv]).map (· ++ l) := by
  show (match seqFold f ra with | none => none | some l => _) = _
  cases seqFold f ra with
  | none => rfl
  | some l =>
    simp only [Option.bind_some]
    split
    · cases f kv.2 <;> rfl
    · rfl

theorem seqFold_spec {f : Int → Option (List (Kind × Int))} {ra l : List (Kind × Int)} {kv : Kind × Int}
    (h : seqFold f ra = some l) (hkv : kv ∈ ra) :
    ∃ rb, (if kv.1 = .normal then f kv.2 else some [kv]) = some rb ∧ rb ⊆ l := by
  induction ra generalizing l with
  | nil => cases hkv
  | cons hd tl ih =>
    obtain ⟨l0, h0, h⟩ := Option.bind_eq_some_iff.mp (seqFold_cons .. ▸ h)
    obtain ⟨rb, hrb, rfl⟩ := Option.map_eq_some_iff.mp h
    rcases List.mem_cons.mp hkv with rfl | hm
    · exact ⟨rb, hrb, List.subset_append_left ..⟩
    · obtain ⟨rb', h', hs⟩ := ih h0 hm
      exact ⟨rb', h', List.subset_append_of_subset_right _ hs⟩

theorem loopRes_spec {v : Int} {r l : List (Kind × Int)} (h : loopRes v r = some l) :
    (.normal, v) ∈ l ∧ ∀ k v1, (k, v1) ∈ r →
      match k with
      | .normal | .continued => v1 = v
      | .broke => (.normal, v1) ∈ l
      | .returned => (.returned, v1) ∈ l := by
  obtain ⟨hall, h⟩ := Option.ite_none_right_eq_some.mp h
  cases h
  refine ⟨List.mem_cons_self, fun k v1 hm => ?_⟩
  cases k with
  | normal => exact of_decide_eq_true (List.all_eq_true.mp hall _ hm) (.inl rfl)
  | continued => exact of_decide_eq_true (List.all_eq_true.mp hall _ hm) (.inr rfl)
  | broke | returned => exact List.mem_cons_of_mem _ (List.mem_filterMap.mpr ⟨_, hm, rfl⟩)

/-- **Soundness**: whatever the concrete execution does, the checker listed it. -/
theorem run_sound {s : Stmt} {v : Int} {k : Kind} {v' : Int} (h : Exec s v k v') :
    ∀ r, run s v = some r → (k, v') ∈ r := by
  induction h with
  | skip v | inc v | dec v | ret v | brk v | cont v => intro r hr; cases hr; exact List.mem_singleton_self _
  | seqN _ _ iha ihb =>
    intro r hr
    obtain ⟨ra, hra, hr⟩ := Option.bind_eq_some_iff.mp (run_seq .. ▸ hr)
    obtain ⟨rb, hrb, hs⟩ := seqFold_spec hr (iha ra hra)
    exact hs (ihb rb hrb)
  | seqX _ hk iha =>
    intro r hr
    obtain ⟨ra, hra, hr⟩ := Option.bind_eq_some_iff.mp (run_seq .. ▸ hr)
    obtain ⟨rb, hrb, hs⟩ := seqFold_spec hr (iha ra hra)
    rw [if_neg hk] at hrb
    cases hrb
    exact hs (List.mem_singleton_self _)
  | choiceL _ iha =>
    intro r hr
    obtain ⟨ra, hra, hr⟩ := Option.bind_eq_some_iff.mp (run_choice .. ▸ hr)
    obtain ⟨rb, _, rfl⟩ := Option.map_eq_some_iff.mp hr
    exact List.mem_append_left _ (iha ra hra)
  | choiceR _ ihb =>
    intro r hr
    obtain ⟨ra, _, hr⟩ := Option.bind_eq_some_iff.mp (run_choice .. ▸ hr)
    obtain ⟨rb, hrb, rfl⟩ := Option.map_eq_some_iff.mp hr
    exact List.mem_append_right _ (ihb rb hrb)
  | swB _ ih =>
    intro r hr
    obtain ⟨rs, hrs, rfl⟩ := Option.map_eq_some_iff.mp (run_sw .. ▸ hr)
    exact List.mem_map.mpr ⟨_, ih rs hrs, rfl⟩
  | swO _ hk ih =>
    intro r hr
    obtain ⟨rs, hrs, rfl⟩ := Option.map_eq_some_iff.mp (run_sw .. ▸ hr)
    exact List.mem_map.mpr ⟨_, ih rs hrs, if_neg hk⟩
  | loop0 =>
    intro r hr
    obtain ⟨rs, _, hr⟩ := Option.bind_eq_some_iff.mp (run_loop .. ▸ hr)
    exact (loopRes_spec hr).1
  | loopN _ _ ih1 ih2 | loopC _ _ ih1 ih2 =>
    intro r hr
    obtain ⟨rs, hrs, hl⟩ := Option.bind_eq_some_iff.mp (run_loop .. ▸ hr)
    -- the kind is `.normal` / `.continued`, so `loopRes_spec`'s `match` reduces to `v1 = v`; `cases` substitutes it
    cases (loopRes_spec hl).2 _ _ (ih1 rs hrs)
    exact ih2 r hr
  | loopB _ ih | loopR _ ih =>
    intro r hr
    obtain ⟨rs, hrs, hr⟩ := Option.bind_eq_some_iff.mp (run_loop .. ▸ hr)
    exact (loopRes_spec hr).2 _ _ (ih rs hrs)  -- the `match` at `.broke` / `.returned` is the goal

/-- Why checking `balancedAt s 0` settles every entry value (`balanced_sound`): executions shift with the counter. -/
theorem exec_shift {s : Stmt} {v : Int} {k : Kind} {v' : Int} (h : Exec s v k v') (d : Int) :
    Exec s (v + d) k (v' + d) := by
  induction h with
  | inc v => exact Int.add_right_comm v d 1 ▸ .inc (v + d)
  | dec v => exact Int.add_right_comm v d (-1) ▸ .dec (v + d)
  | skip _ | ret _ | brk _ | cont _ | loop0 => constructor
  | seqN _ _ iha ihb => exact .seqN iha ihb
  | seqX _ hk iha => exact .seqX iha hk
  | choiceL _ iha => exact .choiceL iha
  | choiceR _ ihb => exact .choiceR ihb
  | swB _ ih => exact .swB ih
  | swO _ hk ih => exact .swO ih hk
  | loopN _ _ ih1 ih2 => exact .loopN ih1 ih2
  | loopC _ _ ih1 ih2 => exact .loopC ih1 ih2
  | loopB _ ih => exact .loopB ih
  | loopR _ ih => exact .loopR ih

/-- **A function the checker accepts is balanced on every call**: entered with
    the counter at any value `v`, every execution that leaves the body — by
    `return` or by falling off the end — leaves it at `v`; and no `break` or
    `continue` escapes the body. -/
theorem balanced_sound (s : Stmt) (hb : balancedAt s 0 = true) (v : Int) (k : Kind) (v' : Int)
    (h : Exec s v k v') : v' = v ∧ (k = .returned ∨ k = .normal) := by
  have h0 := exec_shift h (-v)
  rw [Int.add_right_neg] at h0
  unfold balancedAt at hb
  split at hb
  · cases hb
  · next r hr =>
    have := List.all_eq_true.mp hb _ (run_sound h0 r hr)
    simp only [Bool.and_eq_true, decide_eq_true_eq] at this
    exact ⟨by omega, this.1⟩

end GdModel.Flow
