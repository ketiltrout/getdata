/-
  The record cursor of the sample-index encoding on untrusted indices
  (src/sie.c `_GD_SampIndRead`, `_GD_Advance`), property C05.

  A record holds the number of the last sample it covers.  The reader keeps
  `p` (current sample), `s` (last sample of the current record) and `count`
  (samples delivered so far).  All three are int64 in the C; here they are
  integers.  `Inv` keeps them in ranges from which `inv_fits` derives that
  `s - p`, `s - p + 1`, `s + 1` and `nelem - count` fit in an int64.  What is
  stated: `Inv` before the loop gives `Inv` after it (`readLoop_inv`) and after
  the whole read (`read_inv`).  That it holds at the head of every iteration is
  the step of that induction (`Inv.step`), not a statement of its own; the sums
  `count + have` and `p + (nelem - count)` are the new `count` and `p`, bounded
  by `Inv` of the next state.  All this *provided* every index read from the
  file lies in [-1, 2^63-2], which `_GD_Advance` enforces since the repair of
  ledger entry 5.78 (any other value is an I/O error).
-/
namespace GdModel.Hostile.Sie

structure Cur where
  p : Int
  s : Int
  count : Int
  deriving Repr, DecidableEq

def maxI : Int := 2 ^ 63 - 1

/-- an index the repaired `_GD_Advance` accepts -/
def ValidIdx (r : Int) : Prop := -1 ≤ r ∧ r ≤ maxI - 1

/-- the `while (f->s - f->p < nelem - count)` loop of `_GD_SampIndRead`; the
    list holds the indices of the records still in the file -/
def readLoop (nelem : Int) : List Int → Cur → Cur
  | recs, c =>
    if c.s - c.p < nelem - c.count then
      let have_ := if c.p > c.s then 0 else c.s - c.p + 1
      let c1 := { c with count := c.count + have_ }
      match recs with
      | [] => { c1 with p := c1.s + 1 }                       -- _GD_Advance: end of file
      | r :: rest => readLoop nelem rest { c1 with p := c1.s + 1, s := r }
    else c

/-- "copy the remnant" -/
def finish (nelem : Int) (c : Cur) : Cur :=
  if c.s - c.p ≥ nelem - c.count then { c with p := c.p + (nelem - c.count), count := nelem }
  else if c.p ≤ c.s then { c with count := c.count + (c.s - c.p + 1), p := c.s + 1 }
  else c

def read (nelem : Int) (recs : List Int) (c : Cur) : Cur := finish nelem (readLoop nelem recs c)

structure Inv (nelem : Int) (c : Cur) : Prop where
  p0 : 0 ≤ c.p
  pM : c.p ≤ maxI
  s0 : -1 ≤ c.s
  sM : c.s ≤ maxI - 1
  c0 : 0 ≤ c.count
  cM : c.count ≤ nelem

/-- the differences and sums the C forms in one iteration fit in an int64 -/
theorem inv_fits (nelem : Int) (c : Cur) (h : Inv nelem c) :
    -2 ^ 63 ≤ c.s - c.p ∧ c.s - c.p < 2 ^ 63 ∧ c.s + 1 ≤ maxI ∧ 0 ≤ nelem - c.count ∧
    (c.p ≤ c.s → c.s - c.p + 1 < 2 ^ 63) := by
  obtain ⟨p0, pM, s0, sM, c0, cM⟩ := h
  unfold maxI at *
  omega

/-- One pass through the loop body, the next record ending at `r`.  At the end
    of the file `s` stays as it is, which is the case `r = c.s`.  The new count
    is at most `nelem` because the loop condition says the record does not
    hold all that is still wanted. -/
theorem Inv.step {nelem : Int} {c : Cur} (h : Inv nelem c) (hlt : c.s - c.p < nelem - c.count)
    {r : Int} (hr : ValidIdx r) :
    Inv nelem ⟨c.s + 1, r, c.count + if c.p > c.s then 0 else c.s - c.p + 1⟩ := by
  obtain ⟨p0, pM, s0, sM, c0, cM⟩ := h
  refine ⟨?_, ?_, hr.1, hr.2, ?_, ?_⟩ <;> dsimp only <;> omega

theorem readLoop_inv (nelem : Int) (recs : List Int) (c : Cur) (hv : ∀ r ∈ recs, ValidIdx r)
    (h : Inv nelem c) : Inv nelem (readLoop nelem recs c) := by
  induction recs generalizing c with
  | nil =>
    unfold readLoop
    split
    · exact h.step ‹_› ⟨h.s0, h.sM⟩
    · exact h
  | cons r rest ih =>
    unfold readLoop
    split
    · exact ih _ (fun x hx => hv x (List.mem_cons_of_mem _ hx)) (h.step ‹_› (hv r List.mem_cons_self))
    · exact h

theorem finish_inv {nelem : Int} {c : Cur} (h : Inv nelem c) : Inv nelem (finish nelem c) := by
  unfold finish
  split
  · have ⟨p0, pM, s0, sM, c0, cM⟩ := h
    refine ⟨?_, ?_, s0, sM, ?_, ?_⟩ <;> dsimp only <;> omega
  · split
    · -- the rest of the current record is delivered as in the loop body
      have := h.step (Int.not_le.1 ‹_›) ⟨h.s0, h.sM⟩
      rwa [if_neg (Int.not_lt.2 ‹_›)] at this
    · exact h

/-- **The reader never delivers more than was asked for** (`count ≤ nelem`) and
    leaves its cursor in range for the next call, in whatever order the indices
    that pass the check in `_GD_Advance` come. -/
theorem read_inv (nelem : Int) (recs : List Int) (c : Cur) (hv : ∀ r ∈ recs, ValidIdx r)
    (h : Inv nelem c) : Inv nelem (read nelem recs c) :=
  finish_inv (readLoop_inv nelem recs c hv h)

/-- a freshly opened file: before the first record, nothing delivered -/
theorem init_inv (nelem : Int) (hn : 0 ≤ nelem) : Inv nelem ⟨0, -1, 0⟩ := by
  constructor <;> simp [maxI] <;> omega

/-- Without the check the invariant is lost at once: the index -2^63+1 (accepted
    by the unrepaired code) makes the next `p` negative, and the following
    `s - p` no longer fits in an int64 (ledger entry 5.78). -/
example : ¬ Inv 4 (readLoop 4 [-2 ^ 63 + 1, 5] ⟨0, 0, 0⟩) :=
  fun h => absurd h.p0 (by decide)

example : (read 4 [0, 3, 9] ⟨0, -1, 0⟩).count = 4 := by decide +kernel

end GdModel.Hostile.Sie
